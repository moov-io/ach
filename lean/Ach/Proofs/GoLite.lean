import Ach.Model.GoLite
/-!
# Lemmas about the GoLite interpreter

The syntactic predicates of the model that proofs use get the semantic fact each stands for, by induction over programs: `rejectOnly`
(never returns nil), `calm` / `noAssign` (falls through or fails, adding declarations only), `progNoRelax` (blind to
relaxation flags), `spine` (its guards are false in a run that ends well), `relaxOK` (more flags, more acceptance).
Predicates that only proofs need are defined next to their lemma: `calm` here, `noExit` in `GoLiteSteps`, `isScope`,
`quiet`, `endsInRet` in `GoLitePaths`.
-/
namespace Ach.GoLite

theorem run_accept {c : Ctx} {p : Prog} : run c p = .accept ↔ (exec p c []).2 = .ret (.err none) := by
  unfold run
  split <;> simp_all

/-! `check`/`checkOn`, `sub`/`subOn` and `forEach`/`forIdx` differ only in how they get to the callee's or the body's
result, so a motive `P` over results is proved for both statements of a pair at once. -/

theorem check_cases (P : Locals × Sig → Prop) (tag : Option String) (c : Ctx) (l : Locals)
    (hstuck : ∀ w, P (l, .stuck w)) (hres : ∀ s, P (checkResult tag l s)) :
    (∀ body, P (exec (.check tag body) c l)) ∧
    (∀ recv params args body, P (exec (.checkOn tag recv params args body) c l)) := by
  refine ⟨fun body => hres _, fun recv params args body => ?_⟩
  simp only [exec]
  split
  · split
    · exact hstuck _
    · exact hres _
  · exact hstuck _

theorem sub_cases (P : Locals × Sig → Prop) (x : String) (c : Ctx) (l : Locals)
    (hstuck : ∀ w, P (l, .stuck w)) (hres : ∀ s, P (subResult x l s)) :
    (∀ params args body, P (exec (.sub x params args body) c l)) ∧
    (∀ recv params args body, P (exec (.subOn x recv params args body) c l)) := by
  refine ⟨fun params args body => ?_, fun recv params args body => ?_⟩
  · simp only [exec]
    split
    · exact hstuck _
    · exact hres _
  · simp only [exec]
    split
    · split
      · exact hstuck _
      · exact hres _
    · exact hstuck _

theorem loop_cases (P : Locals × Sig → Prop) (v : String) (body : Prog) (c : Ctx) (l : Locals)
    (hstuck : ∀ w, P (l, .stuck w))
    (hiter : ∀ mk is, P (iter (fun l' => exec body c l') mk v is l)) :
    (∀ coll, P (exec (.forEach v coll body) c l)) ∧ (∀ coll, P (exec (.forIdx v coll body) c l)) := by
  refine ⟨fun coll => ?_, fun coll => ?_⟩ <;>
  · simp only [exec]
    split
    · exact hiter _ _
    · exact hiter (fun _ => .nilp) [] -- a nil slice: a loop of no turns, whatever `mk`
    · exact hstuck _

theorem checkResult_no_accept (tag : Option String) (l : Locals) (s : Sig) :
    (checkResult tag l s).2 ≠ .ret (.err none) := by
  unfold checkResult; split <;> simp

theorem checkResult_next {tag : Option String} {l : Locals} {s : Sig} (h : (checkResult tag l s).2 = .next) :
    s = .ret (.err none) := by
  unfold checkResult at h
  split at h <;> simp_all

theorem subResult_no_accept (x : String) (l : Locals) (s : Sig) :
    (subResult x l s).2 ≠ .ret (.err none) := by
  unfold subResult; split <;> simp

/-- a loop falls through, or ends with a signal of its body that is none of `next`, `continue`, `break` -/
theorem iter_sig (f : Locals → Locals × Sig) (mk : Nat → Val) (v : String) :
    ∀ is l, (iter f mk v is l).2 = .next ∨
      ∃ l', (iter f mk v is l).2 = (f l').2 ∧ (f l').2 ≠ .next ∧ (f l').2 ≠ .cont ∧ (f l').2 ≠ .brk := by
  intro is
  induction is with
  | nil => intro l; exact Or.inl rfl
  | cons i is ih =>
      intro l
      simp only [iter]
      split
      · exact ih _
      · exact ih _
      · exact Or.inl rfl
      · exact Or.inr ⟨_, rfl, by assumption, by assumption, by assumption⟩

theorem iter_no_accept (f : Locals → Locals × Sig) (mk : Nat → Val) (v : String)
    (hf : ∀ l, (f l).2 ≠ .ret (.err none)) (is : List Nat) (l : Locals) : (iter f mk v is l).2 ≠ .ret (.err none) := by
  obtain h | ⟨l', h, _⟩ := iter_sig f mk v is l <;> rw [h]
  · nofun
  · exact hf l'

/-- `errors.New(…)` and `fmt.Errorf(…)` are non-nil errors whatever their arguments evaluate to (`bad` included) -/
theorem eval_errorsNew (c : Ctx) (l : Locals) (a : Expr) : eval c l (.call1 "errors.New" a) = .err (some "") := by
  simp [eval, builtin1]

theorem eval_errorf1 (c : Ctx) (l : Locals) (a : Expr) : eval c l (.call1 "fmt.Errorf" a) = .err (some "") := by
  simp [eval, builtin1]

theorem eval_errorf2 (c : Ctx) (l : Locals) (a b : Expr) : eval c l (.call2 "fmt.Errorf" a b) = .err (some "") := by
  simp [eval, builtin2]

theorem eval_errorf3 (c : Ctx) (l : Locals) (a b d : Expr) :
    eval c l (.call3 "fmt.Errorf" a b d) = .err (some "") := by
  simp [eval, builtin3]

/-- along the cases of `isErrExpr` itself: an error constructed on the spot, or a test that already found one -/
theorem isErrExpr_eval {e : Expr} (h : isErrExpr e = true) (c : Ctx) (l : Locals) : eval c l e ≠ .err none := by
  unfold isErrExpr at h
  split at h
  · simp [eval]
  · simp only [eval]
    split <;> simp
  · simp only [eval]
    split <;> simp
    all_goals (rename_i hx; revert hx; split <;> simp)
  · rcases Bool.or_eq_true_iff.1 h with hf | hf
    · rw [eq_of_beq hf, eval_errorsNew]
      simp
    · rw [eq_of_beq hf, eval_errorf1]
      simp
  · rw [eq_of_beq h, eval_errorf2]
    simp
  · rw [eq_of_beq h, eval_errorf3]
    simp
  · cases h

theorem rejectOnly_no_accept :
    ∀ p, rejectOnly p = true → ∀ (c : Ctx) l, (exec p c l).2 ≠ .ret (.err none) := by
  have call tag c l := check_cases (·.2 ≠ .ret (.err none)) tag c l (by simp) (checkResult_no_accept tag l)
  have sub x c l := sub_cases (·.2 ≠ .ret (.err none)) x c l (by simp) (subResult_no_accept x l)
  have loop v body c l (ih : ∀ l', (exec body c l').2 ≠ .ret (.err none)) :=
    loop_cases (·.2 ≠ .ret (.err none)) v body c l (by simp) (fun _ _ => iter_no_accept _ _ _ ih _ _)
  intro p
  induction p with
  | ret e =>
      intro hr c l
      simp only [exec]
      exact fun h => isErrExpr_eval hr c l (Sig.ret.inj h)
  | ite cnd t e iht ihe =>
      intro hr c l
      simp [rejectOnly] at hr
      simp only [exec]
      split
      · exact iht hr.1 c l
      · exact ihe hr.2 c l
      · simp
  | seq a b iha ihb =>
      intro hr c l
      simp [rejectOnly] at hr
      simp only [exec]
      split
      · exact ihb hr.2 c _
      · exact iha hr.1 c l
  | block p ih => intro hr c l; simp [rejectOnly] at hr; simp only [exec]; exact ih hr c l
  | check tag body _ => intro _ c l; exact (call tag c l).1 body
  | checkOn tag recv params args body _ => intro _ c l; exact (call tag c l).2 recv params args body
  | sub x params args body _ => intro _ c l; exact (sub x c l).1 params args body
  | subOn x recv params args body _ => intro _ c l; exact (sub x c l).2 recv params args body
  | forEach v coll body ih => intro hr c l; exact (loop v body c l (ih hr c)).1 coll
  | forIdx v coll body ih => intro hr c l; exact (loop v body c l (ih hr c)).2 coll
  | unknown s => intro hr; simp [rejectOnly] at hr
  | bind x e | bind2 x y e => intro _ c l; simp only [exec]; split <;> simp
  | assign x e | assign2 x y e => intro _ c l; simp only [exec]; split <;> (try simp) <;> split <;> simp
  | _ => intro _ c l; simp [exec]

theorem scopeExit_append (pre l : Locals) : scopeExit l (pre ++ l) = l := by
  simp [scopeExit]

theorem scopeExit_self (l : Locals) : scopeExit l l = l := by
  simp [scopeExit]

theorem scopeExit_cons_append (pre : Locals) (x : String × Val) (l : Locals) : scopeExit l (pre ++ x :: l) = l := by
  have : pre ++ x :: l = (pre ++ [x]) ++ l := by simp
  rw [this, scopeExit_append]

/-- signals that pass control on inside a function: fall-through, `break`, `continue` -/
def passing (s : Sig) : Prop := s = .next ∨ s = .brk ∨ s = .cont

theorem checkResult_passing (tag : Option String) (l : Locals) (s : Sig) (h : passing (checkResult tag l s).2) :
    checkResult tag l s = (l, .next) := by
  unfold checkResult at h ⊢
  split <;> simp_all [passing]

theorem subResult_passing (x : String) (l : Locals) (s : Sig) (h : passing (subResult x l s).2) :
    ∃ v, subResult x l s = ((x, v) :: l, .next) := by
  unfold subResult at h ⊢
  split <;> simp_all [passing]

/-- no assignment to a declared variable and no loop exit at this function level, loops over such bodies included -/
def calm : Prog → Bool
  | .assign _ _ | .assign2 _ _ _ => false
  | .ite _ t e => calm t && calm e
  | .seq a b => calm a && calm b
  | .block p => calm p
  | .forEach _ _ b => calm b
  | .forIdx _ _ b => calm b
  | .brk | .cont => false
  | _ => true

/-- the result of a statement run from `l` that, if it passes control on, fell through and only added declarations -/
def Falls (l : Locals) (r : Locals × Sig) : Prop := passing r.2 → r.2 = .next ∧ ∃ pre, r.1 = pre ++ l

theorem Falls.of_stuck (l : Locals) (w : String) : Falls l (l, .stuck w) := fun h => by simp [passing] at h

theorem Falls.next (l : Locals) : Falls l (l, .next) := fun _ => ⟨rfl, [], rfl⟩

theorem Falls.scoped {l : Locals} {r : Locals × Sig} (h : Falls l r) : Falls l (scopeExit l r.1, r.2) := fun hp => by
  obtain ⟨h1, pre, h2⟩ := h hp
  exact ⟨h1, [], by simp only [h2, scopeExit_append]; rfl⟩

/-- The hypothesis on the body is asked per index, so that a body lemma may use what is known of `mk i`. -/
theorem iter_visits (f : Locals → Locals × Sig) (mk : Nat → Val) (v : String) (l : Locals) :
    ∀ is : List Nat, (∀ i ∈ is, passing (f ((v, mk i) :: l)).2 →
        (f ((v, mk i) :: l)).2 = .next ∧ scopeExit l (f ((v, mk i) :: l)).1 = l) →
      passing (iter f mk v is l).2 →
      iter f mk v is l = (l, .next) ∧ ∀ i ∈ is, (f ((v, mk i) :: l)).2 = .next := by
  intro is
  induction is with
  | nil => intro _ _; exact ⟨rfl, fun i hi => by simp at hi⟩
  | cons j is ih =>
      intro hb h
      have hj := hb j (List.mem_cons_self ..)
      have hnext : (f ((v, mk j) :: l)).2 = .next := by
        cases hs : (f ((v, mk j) :: l)).2 with
        | next => rfl
        | cont => exact hs ▸ (hj (hs ▸ Or.inr (Or.inr rfl))).1
        | brk => exact hs ▸ (hj (hs ▸ Or.inr (Or.inl rfl))).1
        | ret x => rw [iter, hs] at h; rcases h with h | h | h <;> cases h
        | stuck w => rw [iter, hs] at h; rcases h with h | h | h <;> cases h
      rw [iter, hnext, (hj (hnext ▸ Or.inl rfl)).2] at h ⊢
      obtain ⟨h1, h2⟩ := ih (fun k hk => hb k (List.mem_cons_of_mem _ hk)) h
      refine ⟨h1, fun i hi => ?_⟩
      rcases List.mem_cons.mp hi with rfl | hi'
      · exact hnext
      · exact h2 i hi'

theorem iter_falls (f : Locals → Locals × Sig) (mk : Nat → Val) (v : String) (hf : ∀ l', Falls l' (f l'))
    (is : List Nat) (l : Locals) (h : passing (iter f mk v is l).2) :
    iter f mk v is l = (l, .next) ∧ ∀ i ∈ is, (f ((v, mk i) :: l)).2 = .next :=
  iter_visits f mk v l is (fun i _ hp => by
    obtain ⟨h1, pre, h2⟩ := hf _ hp
    exact ⟨h1, by rw [h2, scopeExit_cons_append]⟩) h

theorem checkResult_falls (tag : Option String) (l : Locals) (s : Sig) : Falls l (checkResult tag l s) := fun h => by
  rw [checkResult_passing tag l s h]
  exact Falls.next l (Or.inl rfl)

theorem subResult_falls (x : String) (l : Locals) (s : Sig) : Falls l (subResult x l s) := fun h => by
  obtain ⟨v, hv⟩ := subResult_passing x l s h
  rw [hv]
  exact ⟨rfl, [(x, v)], rfl⟩

/-- `Falls l (exec p c l)`, written out. -/
theorem calm_suffix :
    ∀ p, calm p = true → ∀ (c : Ctx) l, passing (exec p c l).2 →
      (exec p c l).2 = .next ∧ ∃ pre, (exec p c l).1 = pre ++ l := by
  have call tag c l := check_cases (Falls l) tag c l (Falls.of_stuck l) (checkResult_falls tag l)
  have sub x c l := sub_cases (Falls l) x c l (Falls.of_stuck l) (subResult_falls x l)
  have loop v body c l (ih : ∀ l', Falls l' (exec body c l')) :=
    loop_cases (Falls l) v body c l (Falls.of_stuck l)
      (fun mk is h => by rw [(iter_falls _ mk v ih is l h).1]; exact Falls.next l (Or.inl rfl))
  intro p
  induction p with
  | skip => intro _ c l; exact Falls.next l
  | ite cnd t e iht ihe =>
      intro hn c l
      simp [calm] at hn
      simp only [exec]
      split
      · exact Falls.scoped (iht hn.1 c l)
      · exact Falls.scoped (ihe hn.2 c l)
      · exact Falls.of_stuck l _
  | seq a b iha ihb =>
      intro hn c l h
      simp [calm] at hn
      simp only [exec] at h ⊢
      have ha := iha hn.1 c l
      split at h
      · rename_i l1 hx
        rw [hx] at ha
        obtain ⟨_, p1, hp1⟩ := ha (Or.inl rfl)
        obtain ⟨h2, p2, hp2⟩ := ihb hn.2 c l1 h
        exact ⟨h2, p2 ++ p1, by rw [hp2, show l1 = p1 ++ l from hp1, List.append_assoc]⟩
      · rename_i hx
        obtain ⟨h1, _⟩ := ha h
        exact absurd h1 (fun h1 => hx _ (Prod.ext rfl h1))
  | block p ih => intro hn c l; simp [calm] at hn; simp only [exec]; exact Falls.scoped (ih hn c l)
  | bind x e =>
      intro _ c l h
      simp only [exec] at h ⊢
      split <;> first | exact ⟨rfl, [(x, _)], rfl⟩ | (rename_i hb; simp [hb, passing] at h)
  | bind2 x y e =>
      intro _ c l h
      simp only [exec] at h ⊢
      split <;> first | exact ⟨rfl, [(y, _), (x, _)], rfl⟩ | (simp [passing] at h)
  | check tag body _ => intro _ c l; exact (call tag c l).1 body
  | checkOn tag recv params args body _ => intro _ c l; exact (call tag c l).2 recv params args body
  | sub x params args body _ => intro _ c l; exact (sub x c l).1 params args body
  | subOn x recv params args body _ => intro _ c l; exact (sub x c l).2 recv params args body
  | forEach v coll body ih => intro hn c l; exact (loop v body c l (ih hn c)).1 coll
  | forIdx v coll body ih => intro hn c l; exact (loop v body c l (ih hn c)).2 coll
  | ret e | effect s | unknown s => intro _ c l h; simp [exec, passing] at h
  | _ => intro hn; simp [calm] at hn

theorem calm_of_noAssign : ∀ p, noAssign p = true → calm p = true := by
  intro p
  induction p with
  | _ => intro h; simp only [noAssign, Bool.and_eq_true, Bool.false_eq_true] at h <;> simp only [calm, *, Bool.and_self]

theorem noAssign_suffix (p : Prog) (h : noAssign p = true) (c : Ctx) (l : Locals) : Falls l (exec p c l) :=
  calm_suffix p (calm_of_noAssign p h) c l

/-- `c'` has every relaxation flag of `c` (and possibly more); everything else is equal -/
structure CtxLe (c c' : Ctx) : Prop where
  fields : c.fields = c'.fields
  ext : c.ext = c'.ext
  recv : c.recv = c'.recv
  other : ∀ src n, relaxFlags.contains n = false → hasFlag c src n = hasFlag c' src n
  more : ∀ src n, hasFlag c src n = true → hasFlag c' src n = true

theorem CtxLe.refl (c : Ctx) : CtxLe c c := ⟨rfl, rfl, rfl, fun _ _ _ => rfl, fun _ _ h => h⟩

theorem CtxLe.withRecv {c c' : Ctx} (h : CtxLe c c') (p : String) :
    CtxLe { c with recv := p } { c' with recv := p } :=
  -- `hasFlag` does not read `recv`: the two flag clauses are those of `h` as they stand
  ⟨h.fields, h.ext, rfl, h.other, h.more⟩

theorem CtxLe.recvFlags (c : Ctx) (fs : List String)
    (hother : ∀ n ∈ fs, relaxFlags.contains n = false → n ∈ c.recvFlags)
    (hmore : ∀ n ∈ c.recvFlags, n ∈ fs) : CtxLe c { c with recvFlags := fs } := by
  refine ⟨rfl, rfl, rfl, fun src n hn => ?_, fun src n h => ?_⟩
  · simp only [hasFlag]
    split
    · rw [Bool.eq_iff_iff, List.contains_iff_mem, List.contains_iff_mem]
      exact ⟨hmore n, fun h => hother n h hn⟩
    · rfl
  · simp only [hasFlag] at h ⊢
    split
    · next hs =>
      rw [if_pos hs, List.contains_iff_mem] at h
      exact List.contains_iff_mem.mpr (hmore n h)
    · next hs => rwa [if_neg hs] at h

theorem eval_noRelax {c c' : Ctx} (h : CtxLe c c') (l : Locals) :
    ∀ e, exprNoRelax e = true → eval c l e = eval c' l e := by
  intro e
  induction e with
  | flag src n => intro hn; simp [eval, h.other src n (by simpa [exprNoRelax] using hn)]
  -- the induction hypotheses as conditional rewrite rules; `simp_all` is much slower to check here
  | _ => intro hn; simp only [exprNoRelax, Bool.and_eq_true] at hn; simp only [eval, *, h.fields, h.recv, h.ext]

theorem evalArgs_noRelax {c c' : Ctx} (h : CtxLe c c') (l : Locals) (args : List Expr)
    (hn : ∀ a ∈ args, exprNoRelax a = true) : args.map (eval c l) = args.map (eval c' l) :=
  List.map_congr_left fun a ha => eval_noRelax h l a (hn a ha)

theorem exec_noRelax :
    ∀ p, progNoRelax p = true → ∀ (c c' : Ctx), CtxLe c c' → ∀ l, exec p c l = exec p c' l := by
  intro p
  induction p with
  | seq a b iha ihb =>
      intro hn c c' h l
      simp [progNoRelax] at hn
      simp only [exec, iha hn.1 c c' h l]
      split
      · exact ihb hn.2 c c' h _
      · rfl
  | sub x params args body ih =>
      intro hn c c' h l
      simp [progNoRelax] at hn
      simp only [exec, evalArgs_noRelax h l args hn.1, ih hn.2 c c' h]
  | checkOn tag recv params args body ih =>
      intro hn c c' h l
      simp [progNoRelax] at hn
      simp only [exec, evalArgs_noRelax h l args hn.1.2, eval_noRelax h l recv hn.1.1]
      split
      · rw [ih hn.2 _ _ (h.withRecv _)]
      · rfl
  | subOn x recv params args body ih =>
      intro hn c c' h l
      simp [progNoRelax] at hn
      simp only [exec, evalArgs_noRelax h l args hn.1.2, eval_noRelax h l recv hn.1.1]
      split
      · rw [ih hn.2 _ _ (h.withRecv _)]
      · rfl
  | forEach v coll body ih | forIdx v coll body ih =>
      intro hn c c' h l
      simp [progNoRelax] at hn
      simp only [exec, eval_noRelax h l coll hn.1, funext (ih hn.2 c c' h)]
  | ite cnd t e iht ihe =>
      intro hn c c' h l
      simp [progNoRelax] at hn
      simp [exec, eval_noRelax h l cnd hn.1.1, iht hn.1.2 c c' h l, ihe hn.2 c c' h l]
  | block p ih => intro hn c c' h l; simp [progNoRelax] at hn; simp [exec, ih hn c c' h l]
  | check tag body ih => intro hn c c' h l; simp [progNoRelax] at hn; simp [exec, ih hn c c' h []]
  | _ => intro hn c c' h l; simp_all [progNoRelax, exec, eval_noRelax h l]

theorem eval_noVar (c : Ctx) (l l' : Locals) :
    ∀ e, exprNoVar e = true → eval c l e = eval c l' e := by
  intro e
  induction e with
  | var x => intro hn; cases hn
  | _ => intro hn; simp only [exprNoVar, Bool.and_eq_true] at hn; simp only [eval, *]

theorem spine_noVar : ∀ p e, e ∈ spine p → exprNoVar e = true := by
  intro p
  induction p with
  | seq a b iha ihb =>
      intro e he
      simp only [spine, List.mem_append] at he
      rcases he with he | he
      · exact iha e he
      · split at he
        · exact ihb e he
        · simp at he
  | block p ih => intro e he; exact ih e he
  | check tag body ih => intro e he; exact ih e he
  | ite cnd t e0 _ _ =>
      intro e he
      simp only [spine] at he
      split at he
      · rename_i hc
        simp only [Bool.and_eq_true] at hc
        simp only [List.mem_singleton] at he
        subst he
        exact hc.2
      · simp at he
  | _ => intro e he; simp [spine] at he

theorem spine_sound (c : Ctx) :
    ∀ p l, ((exec p c l).2 = .ret (.err none) ∨ (exec p c l).2 = .next) →
      ∀ e, e ∈ spine p → eval c l e = .bool false := by
  intro p
  induction p with
  | seq a b iha ihb =>
      intro l hres e he
      simp only [spine, List.mem_append] at he
      simp only [exec] at hres
      split at hres
      · rename_i l1 hx
        rcases he with he | he
        · exact iha l (Or.inr (by rw [hx])) e he
        · split at he
          · rw [eval_noVar c l l1 e (spine_noVar b e he)]
            exact ihb l1 hres e he
          · simp at he
      · rename_i hx
        rcases hres with hres | hres
        · rcases he with he | he
          · exact iha l (Or.inl hres) e he
          · split at he
            · rename_i hrej
              exact absurd hres (rejectOnly_no_accept a hrej c l)
            · simp at he
        · exact (hx _ (Prod.ext rfl hres)).elim
  | block p ih => intro l hres e he; exact ih l hres e he
  | check tag body ih =>
      intro l hres e he
      rw [eval_noVar c l [] e (spine_noVar body e he)]
      exact ih [] (Or.inl (checkResult_next (hres.resolve_left (checkResult_no_accept tag l _)))) e he
  | ite cnd t e0 _ _ =>
      intro l hres e he
      simp only [spine] at he
      split at he <;> simp only [List.mem_singleton, List.not_mem_nil] at he
      subst he
      rename_i hc
      simp only [Bool.and_eq_true] at hc
      simp only [exec] at hres
      split at hres
      · -- the guard held: `t` is a `return` of a non-nil error
        obtain ⟨x, rfl⟩ : ∃ x, t = .ret x := by cases t <;> simp [isErrRet] at hc; exact ⟨_, rfl⟩
        rcases hres with h | h
        · exact absurd h (rejectOnly_no_accept (.ret x) hc.1.1 c l)
        · simp [exec] at h
      · assumption
      · simp at hres
  | _ => intro l _ e he; simp [spine] at he

/-- "at least as accepting": an accept stays an accept; a run that passes control on (fall-through, `break`,
`continue`) does exactly the same or becomes an accept -/
def Good (r r' : Locals × Sig) : Prop :=
  (r.2 = .ret (.err none) → r'.2 = .ret (.err none)) ∧
  (passing r.2 → (r' = r ∨ r'.2 = .ret (.err none)))

theorem Good.rfl' (r : Locals × Sig) : Good r r := ⟨fun h => h, fun _ => Or.inl rfl⟩

theorem Good.of_eq {r r' : Locals × Sig} (h : r = r') : Good r r' := by subst h; exact Good.rfl' r

/-- the run may still end well: it returned nil or passes control on -/
def live (s : Sig) : Prop := s = .ret (.err none) ∨ passing s

theorem Good.of_accept {r r' : Locals × Sig} (h : r'.2 = .ret (.err none)) : Good r r' :=
  ⟨fun _ => h, fun _ => Or.inr h⟩

theorem Good.of_dead {r r' : Locals × Sig} (h : ¬ live r.2) : Good r r' :=
  ⟨fun ha => absurd (Or.inl ha) h, fun hp => absurd (Or.inr hp) h⟩

/-- The one composition rule of `relax_mono`: `seq`, `block` and `iter` all continue a result through some `k`. -/
theorem Good.bind {r r' : Locals × Sig} (g : Good r r') (k k' : Locals × Sig → Locals × Sig)
    (hk : ∀ x, Good (k x) (k' x)) (hacc : ∀ x, x.2 = .ret (.err none) → (k' x).2 = .ret (.err none))
    (hdead : ∀ x, live (k x).2 → live x.2) : Good (k r) (k' r') := by
  by_cases hl : live r.2
  · rcases hl.elim (fun ha => Or.inr (g.1 ha)) g.2 with h1 | h1
    · rw [h1]; exact hk r
    · exact Good.of_accept (hacc r' h1)
  · exact Good.of_dead (fun h => hl (hdead r h))

/-- the continuation of `seq`: the second statement runs on `.next` only -/
theorem Good.seq {f f' : Locals → Locals × Sig} (hf : ∀ l, Good (f l) (f' l)) {r r' : Locals × Sig} :
    Good r r' → Good (match r with | (l1, .next) => f l1 | r => r) (match r' with | (l1, .next) => f' l1 | r => r) := by
  intro g
  refine g.bind (fun x => match x with | (l1, .next) => f l1 | r => r)
    (fun x => match x with | (l1, .next) => f' l1 | r => r) (fun x => ?_) (fun x hx => ?_) (fun x => ?_)
  · split
    · exact hf _
    · exact Good.rfl' _
  · split <;> simp_all
  · split <;> simp_all [live, passing]

theorem Good.scoped {r r' : Locals × Sig} (l : Locals) (h : Good r r') :
    Good (scopeExit l r.1, r.2) (scopeExit l r'.1, r'.2) :=
  h.bind (fun x => (scopeExit l x.1, x.2)) _ (fun _ => Good.rfl' _) (fun _ h => h) (fun _ h => h)

theorem checkResult_good (tag : Option String) (l : Locals) {r r' : Locals × Sig} (g : Good r r') :
    Good (checkResult tag l r.2) (checkResult tag l r'.2) := by
  by_cases ha : r.2 = .ret (.err none)
  · rw [ha, g.1 ha]; exact Good.rfl' _
  · refine Good.of_dead (fun h => ha (h.elim (fun h => absurd h (checkResult_no_accept tag l _)) fun h => ?_))
    exact checkResult_next (by rw [checkResult_passing _ _ _ h])

/-- what a loop does with the result `x` of one turn of its body, `k` being the rest of the loop -/
def iterK (k : Locals → Locals × Sig) (l : Locals) (x : Locals × Sig) : Locals × Sig :=
  match x.2 with
  | .next => k (scopeExit l x.1)
  | .cont => k (scopeExit l x.1)
  | .brk => (scopeExit l x.1, .next)
  | s => (scopeExit l x.1, s)

theorem iter_cons (f : Locals → Locals × Sig) (mk : Nat → Val) (v : String) (i : Nat) (is : List Nat) (l : Locals) :
    iter f mk v (i :: is) l = iterK (iter f mk v is) l (f ((v, mk i) :: l)) := rfl

theorem iter_good (f f' : Locals → Locals × Sig) (mk : Nat → Val) (v : String)
    (hf : ∀ l, Good (f l) (f' l)) : ∀ is l, Good (iter f mk v is l) (iter f' mk v is l) := by
  intro is
  induction is with
  | nil => intro l; exact Good.rfl' _
  | cons i is ih =>
      intro l
      rw [iter_cons, iter_cons]
      refine (hf _).bind (iterK _ l) (iterK _ l) (fun x => ?_) (fun x hx => ?_) (fun x => ?_) <;> unfold iterK
      · split <;> first | exact ih _ | exact Good.rfl' _
      · simp only [hx]
      · split <;> simp_all [live, passing]

theorem antiCond_eval {c c' : Ctx} (h : CtxLe c c') (l : Locals) :
    ∀ e, antiCond e = true → eval c' l e = eval c l e ∨ eval c' l e = .bool false := by
  intro e
  fun_induction antiCond e with
  | case1 src n =>
      intro _
      simp only [eval]
      cases hf : hasFlag c src n with
      | true => left; rw [h.more src n hf]
      | false =>
          cases hf' : hasFlag c' src n with
          | false => left; rfl
          | true => right; rfl
  | case2 a b iha ihb =>
      intro hab
      simp only [Bool.or_eq_true, Bool.and_eq_true] at hab
      simp only [eval]
      rcases hab with ⟨ha, hb⟩ | ⟨ha, hb⟩
      · rw [← eval_noRelax h l b hb]
        rcases iha ha with h1 | h1
        · left; rw [h1]
        · right; rw [h1]
      · rw [← eval_noRelax h l a ha]
        cases hav : eval c l a with
        | bool x =>
            cases x with
            | false => left; rfl
            | true =>
                simp only
                rcases ihb hb with h1 | h1
                · left; rw [h1]
                · right; rw [h1]
        | _ => left; rfl
  | case3 => intro ha; cases ha

/-- `if cnd { t } else { e }` whose condition mentions no relaxation flag -/
theorem ite_good {c c' : Ctx} (h : CtxLe c c') {cnd : Expr} {t e : Prog} (l : Locals) (hc : exprNoRelax cnd = true)
    (ht : Good (exec t c l) (exec t c' l)) (he : Good (exec e c l) (exec e c' l)) :
    Good (exec (.ite cnd t e) c l) (exec (.ite cnd t e) c' l) := by
  simp only [exec, eval_noRelax h l cnd hc]
  split
  · exact Good.scoped l ht
  · exact Good.scoped l he
  · exact Good.rfl' _

/-- `if !flag [&& cond] { t }` for a `t` that can only reject: where more flags make the condition false, the checks
that `c` ran and passed are skipped under `c'` -/
theorem ite_good_anti {c c' : Ctx} (h : CtxLe c c') {cnd : Expr} {t : Prog} (l : Locals) (hanti : antiCond cnd = true)
    (hrej : rejectOnly t = true) (hna : noAssign t = true) (ht : Good (exec t c l) (exec t c' l)) :
    Good (exec (.ite cnd t .skip) c l) (exec (.ite cnd t .skip) c' l) := by
  simp only [exec]
  rcases antiCond_eval h l cnd hanti with h1 | h1 <;> rw [h1]
  · split
    · exact Good.scoped l ht
    · exact Good.rfl' _
    · exact Good.rfl' _
  · simp only [scopeExit_self]
    split
    · refine ⟨fun ha => absurd ha (rejectOnly_no_accept t hrej c l), fun hn => Or.inl ?_⟩
      obtain ⟨h2, pre, hp⟩ := noAssign_suffix t hna c l hn
      rw [hp, scopeExit_append, h2]
    · exact Good.rfl' _
    · exact Good.of_dead (by simp [live, passing])

/-- `if flag { return nil } else { e }` for a relaxation flag -/
theorem ite_good_flag {c c' : Ctx} (h : CtxLe c c') (src n : String) {e : Prog} (l : Locals)
    (he : Good (exec e c l) (exec e c' l)) :
    Good (exec (.ite (.flag src n) (.ret .nil) e) c l) (exec (.ite (.flag src n) (.ret .nil) e) c' l) := by
  simp only [exec, eval]
  cases hf : hasFlag c src n with
  | true => rw [h.more src n hf]; exact Good.rfl' _
  | false =>
      cases hasFlag c' src n with
      | false => exact Good.scoped l he
      | true => exact Good.of_accept rfl

theorem relax_mono :
    ∀ p, relaxOK p = true → ∀ (c c' : Ctx), CtxLe c c' → ∀ l, Good (exec p c l) (exec p c' l) := by
  intro p
  induction p with
  | skip | brk | cont | effect _ => intro _ c c' _ l; exact Good.of_eq (by simp only [exec])
  | ret e | bind _ e | bind2 _ _ e | assign _ e | assign2 _ _ e =>
      intro hr c c' h l
      rw [relaxOK] at hr
      exact Good.of_eq (by simp only [exec, eval_noRelax h l e hr])
  | unknown s => intro hr; simp [relaxOK] at hr
  | sub x params args body _ =>
      intro hr c c' h l
      simp [relaxOK] at hr
      exact Good.of_eq (exec_noRelax (.sub x params args body) (by simp [progNoRelax, hr.2]; exact hr.1) c c' h l)
  | subOn x recv params args body _ =>
      intro hr c c' h l
      simp [relaxOK] at hr
      exact Good.of_eq (exec_noRelax (.subOn x recv params args body)
        (by simp [progNoRelax, hr.1.1, hr.2]; exact hr.1.2) c c' h l)
  | block p ih =>
      intro hr c c' h l
      simp [relaxOK] at hr
      simp only [exec]
      exact Good.scoped l (ih hr c c' h l)
  | check tag body ih =>
      intro hr c c' h l
      simp [relaxOK] at hr
      simp only [exec]
      exact checkResult_good tag l (ih hr c c' h [])
  | checkOn tag recv params args body ih =>
      intro hr c c' h l
      simp [relaxOK] at hr
      have ha := evalArgs_noRelax h l args hr.1.2
      simp only [exec, ha, eval_noRelax h l recv hr.1.1]
      split
      · rename_i p _
        split
        · exact Good.rfl' _
        · exact checkResult_good tag l (ih hr.2 _ _ (h.withRecv p) _)
      · exact Good.rfl' _
  | forEach v coll body ih | forIdx v coll body ih =>
      intro hr c c' h l
      simp [relaxOK] at hr
      simp only [exec, eval_noRelax h l coll hr.1]
      split
      · exact iter_good _ _ _ _ (fun l' => ih hr.2 c c' h l') _ _
      · exact Good.rfl' _
      · exact Good.rfl' _
  | seq a b iha ihb =>
      intro hr c c' h l
      simp [relaxOK] at hr
      simp only [exec]
      exact Good.seq (ihb hr.2 c c' h) (iha hr.1 c c' h l)
  | ite cnd t e iht ihe =>
      intro hr c c' h l
      by_cases hanti : antiCond cnd = true
      · simp only [relaxOK, hanti, if_true, Bool.and_eq_true] at hr
        obtain ⟨⟨⟨hsk, hrej⟩, hna⟩, hok⟩ := hr
        obtain rfl : e = .skip := by
          unfold isSkip at hsk
          split at hsk
          · rfl
          · cases hsk
        exact ite_good_anti h l hanti hrej hna (iht hok c c' h l)
      by_cases hflag : ∃ src n, cnd = .flag src n
      · obtain ⟨src, n, rfl⟩ := hflag
        rw [relaxOK, if_neg hanti] at hr
        by_cases hrel : relaxFlags.contains n = true
        · simp only [hrel, if_true, Bool.and_eq_true] at hr
          obtain rfl : t = .ret .nil := by
            have ht := hr.1
            unfold isRetNil at ht
            split at ht
            · rfl
            · cases ht
          exact ite_good_flag h src n l (ihe hr.2 c c' h l)
        · simp only [hrel, Bool.false_eq_true, if_false, Bool.and_eq_true] at hr
          exact ite_good h l (by simpa [exprNoRelax] using hrel) (iht hr.1 c c' h l) (ihe hr.2 c c' h l)
      · -- `relaxOK`'s last equation holds for every condition that is no `.flag`
        rw [relaxOK, if_neg hanti, Bool.and_eq_true, Bool.and_eq_true] at hr
        · exact ite_good h l hr.1.1 (iht hr.1.2 c c' h l) (ihe hr.2 c c' h l)
        · exact fun src n hh => hflag ⟨src, n, hh⟩

theorem run_mono {c c' : Ctx} (h : CtxLe c c') (p : Prog) (hp : relaxOK p = true)
    (ha : run c p = .accept) : run c' p = .accept :=
  run_accept.mpr ((relax_mono p hp c c' h []).1 (run_accept.mp ha))

end Ach.GoLite
