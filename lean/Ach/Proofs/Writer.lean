import Ach.Model.Writer
/-! Blocking, grammar round trip and physical counts of the Writer model. -/
namespace Ach.Writer

/-- ten times `File.Create`'s block count is the record count plus the padding -/
theorem blocks_mul_ten (n : Nat) : (if n % 10 ≠ 0 then n / 10 + 1 else n / 10) * 10 = n + padCount n := by
  unfold padCount
  by_cases h : n % 10 = 0
  · rw [if_neg (not_not_intro h), if_pos h]
    exact Nat.div_mul_cancel (Nat.dvd_of_mod_eq_zero h)
  · rw [if_pos h, if_neg h, Nat.add_mul, Nat.one_mul]
    -- the padding completes the last ten: n % 10 + (10 - n % 10) = 10
    calc n / 10 * 10 + 10 = n / 10 * 10 + (n % 10 + (10 - n % 10)) := by
          rw [Nat.add_sub_of_le (Nat.le_of_lt (Nat.mod_lt n (by decide)))]
      _ = n + (10 - n % 10) := by rw [← Nat.add_assoc, Nat.div_add_mod']

theorem padCount_spec (n : Nat) : (n + padCount n) % 10 = 0 ∧ padCount n < 10 := by
  refine ⟨by rw [← blocks_mul_ten]; exact Nat.mul_mod_left .., ?_⟩
  unfold padCount
  split
  · decide
  · next h => exact Nat.sub_lt (by decide) (Nat.pos_of_ne_zero h)

/-- **written_blocking**: the number of records written is a multiple of ten -/
theorem write_length_mod (f : WFile) : (write f).length % 10 = 0 := by
  rw [write, List.length_append, List.length_replicate]
  exact (padCount_spec _).1

/-- nothing but all-9 filler follows the file control (the last record of `emit`) -/
theorem write_tail_filler (f : WFile) : ∃ body, emit f = body ++ [.fileControl] ∧
    write f = body ++ [.fileControl] ++ List.replicate (padCount (emit f).length) .filler :=
  ⟨.fileHeader :: f.batches.flatMap emitBatch, rfl, rfl⟩

/-! The recognisers' fuel only has to exceed the length of their input. -/

theorem takeAddenda_replicate (n : Nat) (rest : List Kind) (h : rest.head? ≠ some .addenda) :
    takeAddenda (List.replicate n .addenda ++ rest) = (n, rest) := by
  induction n with
  | zero =>
    rw [List.replicate_zero, List.nil_append, takeAddenda.eq_def]
    split
    · exact absurd rfl h
    · rfl
  | succ n ih => rw [List.replicate_succ, List.cons_append, takeAddenda, ih]

theorem takeEntries_emit : ∀ (es : List WEntry) (rest : List Kind) (fuel : Nat),
    (es.flatMap emitEntry ++ .batchControl :: rest).length < fuel →
    takeEntries fuel (es.flatMap emitEntry ++ .batchControl :: rest) = some (es, rest)
  | [], _, _ + 1, _ => rfl
  | e :: es, rest, n + 1, h => by
    -- what follows the entry's addenda starts with the next entry or the batch control
    have hhead : (es.flatMap emitEntry ++ .batchControl :: rest).head? ≠ some .addenda := by
      cases es <;> exact fun h => nomatch h
    simp only [List.flatMap_cons, emitEntry, List.cons_append, List.append_assoc] at h ⊢
    rw [takeEntries, takeAddenda_replicate _ _ hhead,
      takeEntries_emit es rest n (Nat.lt_of_le_of_lt (List.suffix_append ..).length_le (Nat.lt_of_succ_lt_succ h))]
  | _, _, 0, h => absurd h (Nat.not_lt_zero _)

theorem takeBatches_emit : ∀ (bs : List WBatch) (rest : List Kind) (fuel : Nat),
    (bs.flatMap emitBatch ++ .fileControl :: rest).length < fuel →
    takeBatches fuel (bs.flatMap emitBatch ++ .fileControl :: rest) = some (bs, rest)
  | [], _, _ + 1, _ => rfl
  | b :: bs, rest, n + 1, h => by
    simp only [List.flatMap_cons, emitBatch, List.cons_append, List.append_assoc, List.nil_append] at h ⊢
    have h' := Nat.lt_of_succ_lt_succ h
    rw [takeBatches, takeEntries_emit b.entries (bs.flatMap emitBatch ++ .fileControl :: rest) n h']
    simp only [takeBatches_emit bs rest n
      (Nat.lt_of_le_of_lt ((List.suffix_cons ..).trans (List.suffix_append ..)).length_le h')]
  | _, _, 0, h => absurd h (Nat.not_lt_zero _)

/-- the sequence of record kinds the Writer emits (padding included) is in the grammar
`FH (BH (ED AD*)* BC)* FC 9*`, and parsing it gives back exactly the file's tree -/
theorem parse_write (f : WFile) : parse (write f) = some f := by
  simp only [write, emit, List.cons_append, List.append_assoc, List.nil_append, parse]
  rw [takeBatches_emit f.batches _ _ (Nat.lt_succ_self _)]
  simp only [List.all_replicate, BEq.rfl, ite_self, if_true]

theorem emitEntry_length (e : WEntry) : (emitEntry e).length = 1 + e.addenda := by
  rw [emitEntry, List.length_cons, List.length_replicate, Nat.add_comm]

theorem emitBatch_length (b : WBatch) : (emitBatch b).length = 2 + batchEntryAddendaCount b := by
  rw [emitBatch, List.length_cons, List.length_append, List.length_flatMap, batchEntryAddendaCount]
  simp only [emitEntry_length, List.length_singleton]
  exact Nat.add_comm _ 2

/-- **create_counts_physical**: the record total `File.Create` computes from the batch controls is the number of records
`Write` emits before padding, so the block count it stores is the number of 10-record blocks physically written -/
theorem createTotalRecords_eq (f : WFile) : createTotalRecords f = (emit f).length := by
  rw [emit, List.length_cons, List.length_append, List.length_flatMap, createTotalRecords]
  simp only [emitBatch_length, List.length_singleton]
  exact Nat.add_comm 2 _

theorem createBlockCount_physical (f : WFile) : createBlockCount f * 10 = (write f).length := by
  rw [write, List.length_append, List.length_replicate, createBlockCount, createTotalRecords_eq]
  exact blocks_mul_ten _

theorem count_flatMap_of_const {α β : Type} [BEq β] {x : β} {f : α → List β} {c : Nat} (h : ∀ a, (f a).count x = c) :
    ∀ l : List α, (l.flatMap f).count x = l.length * c
  | [] => (Nat.zero_mul c).symm
  | a :: l => by
    rw [List.flatMap_cons, List.count_append, h, count_flatMap_of_const h l, List.length_cons, Nat.succ_mul, Nat.add_comm]

theorem emit_count_batchHeader (f : WFile) : (emit f).count .batchHeader = f.batches.length := by
  have hE : ∀ e, (emitEntry e).count .batchHeader = 0 := fun e => by
    rw [emitEntry, List.count_cons_of_ne (by decide), List.count_replicate]; rfl
  have hB : ∀ b, (emitBatch b).count .batchHeader = 1 := fun b => by
    rw [emitBatch, List.count_cons_self, List.count_append, count_flatMap_of_const hE, Nat.mul_zero]; rfl
  rw [emit, List.count_cons_of_ne (by decide), List.count_append, count_flatMap_of_const hB, Nat.mul_one]; rfl

end Ach.Writer
