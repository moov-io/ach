import Ach.Model.Layout
import Ach.Proofs.Num
/-!
# Generic record round trip

For *any* layout (in particular any list `compile` returns):

* `renderRec_length` : if every field renders to its declared width and re-renders to itself after parsing (`RecFix`),
  the record is `L.width` columns;
* `parseRec_renderRec` : if moreover every field value is recovered by its parser, parsing the rendering
  returns the values (`RecOK`);
* `renderRec_fix` : under the weaker per-field condition "re-rendering the re-parsed field gives the same
  text" the record text is a fixed point of render ∘ parse.

The per-field sufficient conditions (what "within its NACHA width" means for each converter pair) follow.
-/
namespace Ach

/-- `ps` is the Reader's `PreserveSpaces` option throughout this file -/
def FieldOK (ps : Bool) (f : FieldSpec) (v : Val) : Prop :=
  (renderField f v).length = f.w ∧ parseField ps f (renderField f v) = v

def FieldFix (ps : Bool) (f : FieldSpec) (v : Val) : Prop :=
  (renderField f v).length = f.w ∧ renderField f (parseField ps f (renderField f v)) = renderField f v

theorem FieldOK.fix {ps f v} (h : FieldOK ps f v) : FieldFix ps f v := ⟨h.1, by rw [h.2]⟩

def RecAll (P : FieldSpec → Val → Prop) : Layout → List Val → Prop
  | [], [] => True
  | f :: L, v :: vs => P f v ∧ RecAll P L vs
  | _, _ => False

abbrev RecOK (ps : Bool) := RecAll (FieldOK ps)
abbrev RecFix (ps : Bool) := RecAll (FieldFix ps)

@[elab_as_elim]
theorem RecAll.ind {P : FieldSpec → Val → Prop} {C : Layout → List Val → Prop} (nil : C [] [])
    (cons : ∀ {f L v vs}, P f v → C L vs → C (f :: L) (v :: vs)) : ∀ {L vs}, RecAll P L vs → C L vs
  | [], [], _ => nil
  | _ :: _, _ :: _, ⟨a, b⟩ => cons a (RecAll.ind nil cons b)
  | [], _ :: _, hf => hf.elim
  | _ :: _, [], hf => hf.elim

theorem RecAll.mono {P Q : FieldSpec → Val → Prop} (h : ∀ f v, P f v → Q f v) :
    ∀ {L vs}, RecAll P L vs → RecAll Q L vs :=
  fun hr => RecAll.ind trivial (fun a ih => ⟨h _ _ a, ih⟩) hr

/-- **C02 (record level)**: a record whose fields are within their widths (`RecFix`) renders to exactly `width` columns -/
theorem renderRec_length {ps : Bool} {L : Layout} {vs : List Val} (h : RecFix ps L vs) :
    (renderRec L vs).length = Layout.width L :=
  RecAll.ind rfl (fun a ih => by rw [renderRec, List.length_append, a.1, ih]; rfl) h

theorem parseRec_cons_append {ps : Bool} {f : FieldSpec} {L : Layout} {a rest : Str} (h : a.length = f.w) :
    parseRec ps (f :: L) (a ++ rest) = parseField ps f a :: parseRec ps L rest := by
  rw [parseRec, List.take_left' h, List.drop_left' h]

/-- **C01 (record level)**: parsing what was rendered returns every field value -/
theorem parseRec_renderRec {ps : Bool} : ∀ {L : Layout} {vs : List Val}, RecOK ps L vs →
    parseRec ps L (renderRec L vs) = vs :=
  fun h => RecAll.ind rfl (fun a ih => by rw [renderRec, parseRec_cons_append a.1, a.2, ih]) h

/-- **C01 fixed point (record level)**: write ∘ read ∘ write = write on the record text -/
theorem renderRec_fix {ps : Bool} {L : Layout} {vs : List Val} (h : RecFix ps L vs) :
    renderRec L (parseRec ps L (renderRec L vs)) = renderRec L vs :=
  RecAll.ind rfl (fun a ih => by rw [renderRec, parseRec_cons_append a.1, renderRec, a.2, ih]) h

/-- the converter pair of `f` reproduces its text for every possible column content -/
def StableSpec (ps : Bool) (f : FieldSpec) : Prop :=
  ∀ cols : Str, cols.length = f.w → FieldFix ps f (parseField ps f cols)

theorem parseRec_recFix {ps : Bool} : ∀ (L : Layout), (∀ f ∈ L, StableSpec ps f) →
    ∀ line : Str, line.length = Layout.width L → RecFix ps L (parseRec ps L line)
  | [], _, _, _ => trivial
  | f :: L, hs, line, hl => by
    have hw : line.length = f.w + Layout.width L := hl
    exact ⟨hs f (List.mem_cons_self ..) _ (List.length_take_of_le (hw ▸ Nat.le_add_right ..)),
      parseRec_recFix L (fun g hg => hs g (List.mem_cons_of_mem _ hg)) _
        (by rw [List.length_drop, hw, Nat.add_sub_cancel_left])⟩

/-- **reader fixed point (record level)**: for a layout whose fields are all stable, and any line of
the right width, write(read(line)) is a fixed point of write ∘ read -/
theorem reader_record_fixed_point {ps : Bool} (L : Layout) (hs : ∀ f ∈ L, StableSpec ps f)
    (line : Str) (hl : line.length = Layout.width L) :
    renderRec L (parseRec ps L (renderRec L (parseRec ps L line))) = renderRec L (parseRec ps L line) :=
  renderRec_fix (parseRec_recFix L hs line hl)

/-! With the field spec given by its constructor, `renderField` and `parseField` reduce to the converters named by
`rk` and `pk`, so each condition is the width lemma and the parse ∘ render lemma of that converter pair. -/

theorem fieldOK_lit_none (ps : Bool) (name : String) (s : Str) : FieldOK ps ⟨name, s.length, .lit s, .none⟩ .unit :=
  ⟨rfl, rfl⟩

theorem fieldOK_raw_raw (ps : Bool) (name : String) (w : Nat) (t : Str) (h : t.length = w) :
    FieldOK ps ⟨name, w, .raw, .raw⟩ (.s t) := ⟨h, rfl⟩

theorem fieldOK_alpha_raw (ps : Bool) (name : String) (w : Nat) (t : Str) (hw : w ≤ lineLength) (h : t.length = w) :
    FieldOK ps ⟨name, w, .alpha, .raw⟩ (.s t) :=
  ⟨alphaField_length t w hw, congrArg Val.s (alphaField_of_length t w hw h)⟩

theorem fieldOK_str_raw (ps : Bool) (name : String) (w : Nat) (t : Str) (hw : w ≤ lineLength) (h : t.length = w) :
    FieldOK ps ⟨name, w, .str, .raw⟩ (.s t) :=
  ⟨stringField_length t w hw, congrArg Val.s (stringField_of_length t w hw h)⟩

theorem fieldOK_alpha_trim (ps : Bool) (name : String) (w : Nat) (t : Str) (hw : w ≤ lineLength)
    (hl : t.length ≤ w) (ht : Trimmed t) : FieldOK ps ⟨name, w, .alpha, .trim⟩ (.s t) :=
  ⟨alphaField_length t w hw, congrArg Val.s (trimSpace_alphaField t w hw hl ht)⟩

/-- without PreserveSpaces `parseStringFieldWithOpts` is `trimSpace` -/
theorem fieldOK_alpha_trimOpts (name : String) (w : Nat) (t : Str) (hw : w ≤ lineLength)
    (hl : t.length ≤ w) (ht : Trimmed t) : FieldOK false ⟨name, w, .alpha, .trimOpts⟩ (.s t) :=
  fieldOK_alpha_trim false name w t hw hl ht

/-- with PreserveSpaces `parseStringFieldWithOpts` returns the columns as they are, so the value is the full-width
column content -/
theorem fieldOK_alpha_trimOpts_preserve (name : String) (w : Nat) (t : Str) (hw : w ≤ lineLength)
    (hl : t.length = w) : FieldOK true ⟨name, w, .alpha, .trimOpts⟩ (.s t) :=
  fieldOK_alpha_raw true name w t hw hl

theorem fieldOK_num_num (ps : Bool) (name : String) (w : Nat) (k : Int) (hw1 : 1 ≤ w) (hw : w ≤ lineLength)
    (h0 : 0 ≤ k) (hfit : k < 10 ^ w) (hmax : k ≤ maxInt64) : FieldOK ps ⟨name, w, .num, .num⟩ (.n k) :=
  ⟨numericField_length k w hw, congrArg Val.n (parseNumField_numericField k w hw1 hw h0 hfit hmax)⟩

/-- an unpadded `strconv.Itoa` field (transaction code, service class, …): the value must be
non-negative and have exactly `w` decimal digits -/
theorem fieldOK_itoa_num (ps : Bool) (name : String) (w : Nat) (n : Nat)
    (hl : (natDigits n).length = w) (hmax : (n : Int) ≤ maxInt64) : FieldOK ps ⟨name, w, .itoa, .num⟩ (.n n) :=
  ⟨hl, congrArg Val.n (parseNumField_zeros_natDigits 0 n hmax)⟩

theorem fieldOK_str_trim (ps : Bool) (name : String) (w : Nat) (t : Str) (hw : w ≤ lineLength)
    (hl : t.length = w) (ht : Trimmed t) : FieldOK ps ⟨name, w, .str, .trim⟩ (.s t) :=
  ⟨stringField_length t w hw, congrArg Val.s ((congrArg trimSpace (stringField_of_length t w hw hl)).trans ht)⟩

theorem fieldOK_raw_trim (ps : Bool) (name : String) (w : Nat) (t : Str)
    (hl : t.length = w) (ht : Trimmed t) : FieldOK ps ⟨name, w, .raw, .trim⟩ (.s t) :=
  ⟨hl, congrArg Val.s ht⟩

/-- a literal, read or not (reserved columns that `Parse` keeps): the text is reproduced although the value is not -/
theorem stable_lit_any (ps : Bool) (name : String) (s : Str) (pk : PK) : StableSpec ps ⟨name, s.length, .lit s, pk⟩ :=
  fun _ _ => ⟨rfl, rfl⟩

theorem stable_lit_none (ps : Bool) (name : String) (s : Str) : StableSpec ps ⟨name, s.length, .lit s, .none⟩ :=
  stable_lit_any ps name s .none

theorem stable_raw_raw (ps : Bool) (name : String) (w : Nat) : StableSpec ps ⟨name, w, .raw, .raw⟩ :=
  fun _ h => ⟨h, rfl⟩

theorem stable_alpha_raw (ps : Bool) (name : String) (w : Nat) (hw : w ≤ lineLength) : StableSpec ps ⟨name, w, .alpha, .raw⟩ :=
  fun cols h => (fieldOK_alpha_raw ps name w cols hw h).fix

theorem stable_str_raw (ps : Bool) (name : String) (w : Nat) (hw : w ≤ lineLength) : StableSpec ps ⟨name, w, .str, .raw⟩ :=
  fun cols h => (fieldOK_str_raw ps name w cols hw h).fix

theorem stable_alpha_trim (ps : Bool) (name : String) (w : Nat) (hw : w ≤ lineLength) : StableSpec ps ⟨name, w, .alpha, .trim⟩ :=
  fun cols h => (fieldOK_alpha_trim ps name w (trimSpace cols) hw
    (Nat.le_trans (length_trimSpace_le cols) (Nat.le_of_eq h)) (trimmed_trimSpace cols)).fix

theorem stable_alpha_trimOpts (ps : Bool) (name : String) (w : Nat) (hw : w ≤ lineLength) : StableSpec ps ⟨name, w, .alpha, .trimOpts⟩ :=
  fun cols h => match ps with
    | false => (fieldOK_alpha_trimOpts name w (trimSpace cols) hw
        (Nat.le_trans (length_trimSpace_le cols) (Nat.le_of_eq h)) (trimmed_trimSpace cols)).fix
    | true => (fieldOK_alpha_trimOpts_preserve name w cols hw h).fix

/-- zero-padded string read back trimmed: the *text* is stable (the value gains the padding) -/
theorem stable_str_trim (ps : Bool) (name : String) (w : Nat) (hw : w ≤ lineLength) : StableSpec ps ⟨name, w, .str, .trim⟩ := by
  intro cols h
  have hlen := stringField_length (trimSpace cols) w hw
  -- the rendered text is zero padding in front of a trimmed string: trimmed, and of full width
  have ht : trimSpace (stringField (trimSpace cols) w) = stringField (trimSpace cols) w := by
    rw [stringField_of_le _ w hw (Nat.le_trans (length_trimSpace_le cols) (Nat.le_of_eq h))]
    exact trimmed_append_left (no_space_of_all_isDigit (zeros_all_digit _)) (trimmed_trimSpace cols)
  exact ⟨hlen, (congrArg (stringField · w) ht).trans (stringField_of_length _ w hw hlen)⟩

end Ach
