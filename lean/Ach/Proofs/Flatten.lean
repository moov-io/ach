import Ach.Model.Flatten
/-! Conservation, the conflict invariant and idempotence of the flatten loop; the trace order inside a group. -/
namespace Ach.Flatten

theorem allEntries_cons (b : FBatch) (bs : List FBatch) : allEntries (b :: bs) = b.entries ++ allEntries bs := rfl

theorem absorb_perm (b : FBatch) : ∀ (gs : List FBatch), (allEntries (absorb b gs)).Perm (allEntries gs ++ b.entries)
  | [] => by simp [absorb, allEntries]
  | g :: gs => by
    unfold absorb
    split
    · simp only [allEntries_cons, List.append_assoc]
      exact List.Perm.append_left _ List.perm_append_comm
    · simp only [allEntries_cons, List.append_assoc]
      exact List.Perm.append_left _ (absorb_perm b gs)

theorem foldl_absorb_perm : ∀ (bs gs : List FBatch),
    (allEntries (bs.foldl (fun gs b => absorb b gs) gs)).Perm (allEntries gs ++ allEntries bs)
  | [], gs => by simp [allEntries]
  | b :: bs, gs => by
    rw [List.foldl_cons, allEntries_cons, ← List.append_assoc]
    exact (foldl_absorb_perm bs (absorb b gs)).trans (List.Perm.append_right _ (absorb_perm b gs))

/-- **flatten_conserves**: whatever order the batches are processed in, the groups hold exactly the input's entries -/
theorem flatten_conserves (bs bs' : List FBatch) (h : bs'.Perm bs) : (allEntries (flatten bs')).Perm (allEntries bs) :=
  (foldl_absorb_perm bs' []).trans (List.Perm.flatMap_right _ h)

def Conf (a b : FBatch) : Prop := a.sig = b.sig → shares a.entries b.entries = true

theorem shares_iff {a b : List FEntry} : shares a b = true ↔ ∃ x ∈ a, ∃ y ∈ b, y.trace = x.trace := by
  simp [shares]

theorem shares_symm (a b : List FEntry) : shares a b = shares b a := by
  have swap : ∀ {a b : List FEntry}, shares a b = true → shares b a = true := fun h =>
    have ⟨x, hx, y, hy, e⟩ := shares_iff.1 h
    shares_iff.2 ⟨y, hy, x, hx, e.symm⟩
  exact Bool.eq_iff_iff.2 ⟨swap, swap⟩

theorem shares_mono_right (a b c : List FEntry) (h : shares a b = true) : shares a (b ++ c) = true :=
  have ⟨x, hx, y, hy, e⟩ := shares_iff.1 h
  shares_iff.2 ⟨x, hx, y, List.mem_append_left _ hy, e⟩

theorem conf_symm {a b : FBatch} (h : Conf a b) : Conf b a := by
  intro hs; rw [shares_symm]; exact h hs.symm

theorem conf_grow {a g : FBatch} (h : Conf a g) (extra : List FEntry) :
    Conf a { g with entries := g.entries ++ extra } :=
  fun hs => shares_mono_right _ _ _ (h hs)

theorem canMerge_eq_false_iff {b g : FBatch} : canMerge b g = false ↔ Conf g b := by
  simp only [canMerge, Conf, shares_symm b.entries, Bool.and_eq_false_iff, decide_eq_false_iff_not, Bool.not_eq_false']
  exact Decidable.imp_iff_not_or.symm

/-- a group that conflicts with the batch and with every group `absorb` starts from conflicts with every group it
returns: groups only grow, and keep their signature -/
theorem conf_absorb {a b : FBatch} (hb : Conf a b) : ∀ (gs : List FBatch), (∀ g ∈ gs, Conf a g) → ∀ x ∈ absorb b gs, Conf a x
  | [], _, x, hx => by rw [List.mem_singleton.1 hx]; exact hb
  | g :: gs, h, x, hx => by
    unfold absorb at hx
    split at hx
    · rcases List.mem_cons.1 hx with rfl | hx
      · exact conf_grow (h g List.mem_cons_self) _
      · exact h x (List.mem_cons_of_mem _ hx)
    · rcases List.mem_cons.1 hx with rfl | hx
      · exact h x List.mem_cons_self
      · exact conf_absorb hb gs (fun g hg => h g (List.mem_cons_of_mem _ hg)) x hx

theorem absorb_conf (b : FBatch) : ∀ (gs : List FBatch), gs.Pairwise Conf → (absorb b gs).Pairwise Conf
  | [], _ => List.pairwise_singleton ..
  | g :: gs, h => by
    obtain ⟨hg, hgs⟩ := List.pairwise_cons.1 h
    unfold absorb
    split
    · exact List.pairwise_cons.2 ⟨fun x hx => conf_symm (conf_grow (conf_symm (hg x hx)) _), hgs⟩
    · next hc =>
      exact List.pairwise_cons.2 ⟨conf_absorb (canMerge_eq_false_iff.1 (by simpa using hc)) gs hg, absorb_conf b gs hgs⟩

/-- **flatten_groups_conflict**: in the result, two groups with equal signatures always share a trace number -/
theorem flatten_groups_conflict (bs : List FBatch) : (flatten bs).Pairwise Conf :=
  List.foldlRecOn bs _ List.Pairwise.nil fun gs h b _ => absorb_conf b gs h

theorem absorb_of_conf (b : FBatch) : ∀ (gs : List FBatch), (∀ g ∈ gs, Conf g b) → absorb b gs = gs ++ [b]
  | [], _ => rfl
  | g :: gs, h => by
    rw [absorb, canMerge_eq_false_iff.2 (h g List.mem_cons_self), if_neg Bool.false_ne_true,
      absorb_of_conf b gs fun x hx => h x (List.mem_cons_of_mem _ hx)]
    rfl

theorem foldl_absorb_of_conf : ∀ (bs gs : List FBatch), (gs ++ bs).Pairwise Conf →
    bs.foldl (fun gs b => absorb b gs) gs = gs ++ bs
  | [], gs, _ => (List.append_nil gs).symm
  | b :: bs, gs, h => by
    have hb : ∀ g ∈ gs, Conf g b := fun g hg => (List.pairwise_append.1 h).2.2 g hg b List.mem_cons_self
    rw [List.foldl_cons, absorb_of_conf b gs hb, foldl_absorb_of_conf bs (gs ++ [b]) (by simpa using h)]
    simp

/-- **flatten_idempotent**: the groups of a flattened file, processed again in any order, come out unchanged
(each its own group — no merge happens) -/
theorem flatten_idempotent (bs : List FBatch) (p : List FBatch) (hp : p.Perm (flatten bs)) : flatten p = p :=
  foldl_absorb_of_conf p [] ((hp.pairwise_iff conf_symm).2 (flatten_groups_conflict bs))

theorem insertByTrace_perm (e : FEntry) : ∀ (l : List FEntry), (insertByTrace e l).Perm (e :: l)
  | [] => List.Perm.refl _
  | x :: xs => by
    unfold insertByTrace
    split
    · exact List.Perm.refl _
    · exact ((insertByTrace_perm e xs).cons x).trans (List.Perm.swap e x xs)

theorem sortByTrace_perm : ∀ (l : List FEntry), (sortByTrace l).Perm l
  | [] => List.Perm.refl _
  | e :: es => (insertByTrace_perm e (sortByTrace es)).trans ((sortByTrace_perm es).cons e)

def Ascending (l : List FEntry) : Prop := l.Pairwise (fun a b => a.trace ≤ b.trace)

theorem insertByTrace_sorted (e : FEntry) : ∀ (l : List FEntry), Ascending l → Ascending (insertByTrace e l)
  | [], _ => List.pairwise_singleton ..
  | x :: xs, h => by
    obtain ⟨hx, hxs⟩ := List.pairwise_cons.1 h
    unfold insertByTrace
    split
    · next hle =>
      refine List.pairwise_cons.2 ⟨fun y hy => ?_, h⟩
      rcases List.mem_cons.1 hy with rfl | hy
      · exact hle
      · exact Nat.le_trans hle (hx y hy)
    · next hle =>
      refine List.pairwise_cons.2 ⟨fun y hy => ?_, insertByTrace_sorted e xs hxs⟩
      rcases List.mem_cons.1 ((insertByTrace_perm e xs).mem_iff.1 hy) with rfl | hy
      · exact Nat.le_of_not_le hle
      · exact hx y hy

theorem sortByTrace_sorted : ∀ (l : List FEntry), Ascending (sortByTrace l)
  | [] => List.Pairwise.nil
  | e :: es => insertByTrace_sorted e _ (sortByTrace_sorted es)

theorem sortByTrace_strict (l : List FEntry) (h : (l.map (·.trace)).Nodup) :
    (sortByTrace l).Pairwise (fun a b => a.trace < b.trace) :=
  have hn : (sortByTrace l).Pairwise (fun a b => a.trace ≠ b.trace) :=
    List.pairwise_map.1 (((sortByTrace_perm l).map _).nodup_iff.2 h)
  ((sortByTrace_sorted l).and hn).imp fun ⟨hle, hne⟩ => Nat.lt_of_le_of_ne hle hne

theorem sortByTrace_of_sorted : ∀ (l : List FEntry), Ascending l → sortByTrace l = l
  | [], _ => rfl
  | [_], _ => rfl
  | e :: x :: xs, h => by
    obtain ⟨he, hxs⟩ := List.pairwise_cons.1 h
    rw [sortByTrace, sortByTrace_of_sorted (x :: xs) hxs, insertByTrace, if_pos (he x List.mem_cons_self)]

theorem allEntries_flattenSorted (bs : List FBatch) : (allEntries (flattenSorted bs)).Perm (allEntries (flatten bs)) := by
  unfold flattenSorted
  generalize flatten bs = gs
  induction gs with
  | nil => exact List.Perm.refl _
  | cons g gs ih => exact List.Perm.append (sortByTrace_perm g.entries) ih

end Ach.Flatten
