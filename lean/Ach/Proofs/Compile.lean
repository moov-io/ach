import Ach.Model.Layout
/-! `compile` only ever returns layouts of width 94 (whatever the extracted facts are). -/
namespace Ach
open Ach.Gen

theorem Except.bind_eq_ok {ε α β : Type} {x : Except ε α} {f : α → Except ε β} {b : β} (h : x >>= f = .ok b) :
    ∃ a, x = .ok a ∧ f a = .ok b := by
  cases x with
  | error e => cases h
  | ok a => exact ⟨a, rfl, h⟩

/-- `if c then throw e; x` succeeds only when `c` fails -/
theorem Except.guard_eq_ok {ε β : Type} {c : Prop} [Decidable c] {e : ε} {x : Except ε β} {b : β}
    (h : (if c then .error e else x) = .ok b) : ¬ c ∧ x = .ok b := by
  split at h
  · cases h
  · exact ⟨‹_›, h⟩

theorem compile_width (pf : ParseFact) (rf : RenderFact) (L : Layout) (h : compile pf rf = .ok L) :
    Layout.width L = lineLength := by
  -- along the `do` block: two guards, the two binds, the width guard, the coverage guard, `pure`
  unfold compile at h
  obtain ⟨-, h⟩ := Except.guard_eq_ok h
  obtain ⟨-, h⟩ := Except.guard_eq_ok h
  obtain ⟨prims, -, h⟩ := Except.bind_eq_ok h
  obtain ⟨L', -, h⟩ := Except.bind_eq_ok h
  obtain ⟨hw, h⟩ := Except.guard_eq_ok h
  obtain ⟨-, h⟩ := Except.guard_eq_ok h
  cases h
  exact Decidable.not_not.1 hw

end Ach
