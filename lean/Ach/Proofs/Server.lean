import Ach.Model.Server
/-!
# The server refines a map from ID to file

`Spec` is the abstract object: a total function `Id → Option F` and the `base.ID()` counter.  `specStep` describes
every request directly on the map (`upd` / `del` / `ins` = insert-if-absent); `abs` reads a `State` as a `Spec`.
`step_refines` / `run_refines`: the association-list repository of `Ach.Model.Server` commutes with `abs`, and every
response is the spec's (for `GET /files`: some enumeration of the map — Go iterates the map in random order).
`Frame` / `spec_frame` bound what one request may do to the map: only the key it `writes` changes, only generated or
created IDs appear.  The clauses of C17 are read off `specStep` through `find_step` and from that bound.
-/
namespace Ach.Server
variable {F T : Type}

abbrev Map (F : Type) := Id → Option F

def Map.upd (m : Map F) (id : Id) (f : F) : Map F := fun k => if k = id then some f else m k
def Map.del (m : Map F) (id : Id) : Map F := fun k => if k = id then none else m k
def Map.ins (m : Map F) (id : Id) (f : F) : Map F := if (m id).isSome then m else m.upd id f
def Map.insOpt (m : Map F) : Option (Id × F) → Map F
  | some p => m.ins p.1 p.2
  | none => m

theorem Map.upd_def (m : Map F) (id : Id) (f : F) : m.upd id f = fun k => if k = id then some f else m k := rfl

theorem Map.upd_self (m : Map F) (id : Id) (g : F) : (m.upd id g) id = some g := if_pos rfl

theorem Map.upd_of_ne {m : Map F} {id k : Id} {g : F} (h : k ≠ id) : (m.upd id g) k = m k := if_neg h

theorem Map.ins_of_some {m : Map F} {id k : Id} {f g : F} (h : m k = some f) : (m.ins id g) k = some f := by
  unfold Map.ins
  split
  · exact h
  · next hn => rw [Map.upd_of_ne fun e => hn (by rw [← e, h]; rfl), h]

theorem Map.insOpt_of_some {m : Map F} {o : Option (Id × F)} {k : Id} {f : F} (h : m k = some f) :
    (m.insOpt o) k = some f := by
  cases o with
  | none => exact h
  | some p => exact Map.ins_of_some h

theorem Map.ins_new {m : Map F} {id k : Id} {g : F} (h : m k = none) (h' : (m.ins id g) k ≠ none) : k = id := by
  unfold Map.ins at h'
  split at h'
  · exact absurd h h'
  · exact Decidable.by_contra fun hk => h' (by rw [Map.upd_of_ne hk, h])

theorem Map.ins_self {m : Map F} {id : Id} {g : F} (h : m id = none) : (m.ins id g) id = some g := by
  rw [Map.ins, h]; exact Map.upd_self ..

structure Spec (F : Type) where
  m : Map F
  next : Nat

def abs (s : State F) : Spec F := ⟨find s.files, s.next⟩

/-- the server on a map.  (`list`: the body is a placeholder, see `RespOK`.) -/
def specStep (L : Lib F T) (σ : Spec F) : Req → Spec F × Resp F T
  | .create path json body opts =>
    let d := decodeCreate L σ.next path json body opts
    let dup := (σ.m d.id).isSome
    (⟨σ.m.ins d.id d.file, if d.gen then σ.next + 1 else σ.next⟩,
     ⟨if d.parseErr then .libErr else if dup then .badRequest else .ok, .idFile d.id d.file⟩)
  | .get id =>
    (σ, match σ.m id with
        | some f => ⟨.ok, .file f⟩
        | none => ⟨.notFound, .none⟩)
  | .list => (σ, ⟨.ok, .files []⟩)
  | .delete id => (⟨σ.m.del id, σ.next⟩, ⟨.ok, .none⟩)
  | .contents id crlf =>
    match σ.m id with
    | none => (σ, ⟨.error, .none⟩)
    | some f =>
      (⟨σ.m.upd id (L.create f).1, σ.next⟩,
       if (L.create f).2.isSome then ⟨.libErr, .none⟩ else
       match L.writeText (L.create f).1 crlf with
       | .ok t => ⟨.ok, .text t⟩
       | .error _ => ⟨.libErr, .none⟩)
  | .validate id opts =>
    (σ, match σ.m id with
        | none => ⟨.badRequest, .none⟩
        | some f => ⟨if (L.validate f opts).isSome then .badRequest else .ok, .none⟩)
  | .build id =>
    match σ.m id with
    | none => (σ, ⟨.error, .none⟩)
    | some f => (⟨σ.m.upd id (L.create f).1, σ.next⟩, ⟨if (L.create f).2.isSome then .libErr else .ok, .file (L.create f).1⟩)
  | .flatten id =>
    match σ.m id with
    | none => (σ, ⟨.notFound, .none⟩)
    | some f =>
      if (L.create f).2.isSome then (⟨σ.m.upd id (L.create f).1, σ.next⟩, ⟨.libErr, .none⟩) else
      match (L.flatten (L.create f).1).2 with
      | .error _ => (⟨σ.m.upd id (L.flatten (L.create f).1).1, σ.next⟩, ⟨.libErr, .none⟩)
      | .ok g =>
        (⟨(σ.m.upd id (L.flatten (L.create f).1).1).ins (L.freshId σ.next) (L.setId g (L.freshId σ.next)), σ.next + 1⟩,
         ⟨.ok, .idFile (L.freshId σ.next) (L.setId g (L.freshId σ.next))⟩)
  | .segment id =>
    match σ.m id with
    | none => (σ, ⟨.notFound, .none⟩)
    | some f =>
      match (svcSegment L f).2 with
      | none => (⟨σ.m.upd id (svcSegment L f).1, σ.next⟩, ⟨.libErr, .none⟩)
      | some cd =>
        (⟨((σ.m.upd id (svcSegment L f).1).insOpt (segParts L σ.next cd).1).insOpt (segParts L σ.next cd).2, σ.next + 2⟩,
         ⟨.ok, .seg (segParts L σ.next cd).1 (segParts L σ.next cd).2⟩)
  | .segmentBody json body opts =>
    match decodeSegment L json body opts with
    | none => (σ, ⟨.libErr, .none⟩)
    | some f =>
      match (svcSegment L (withOpts L f opts)).2 with
      | none => (σ, ⟨.libErr, .none⟩)
      | some cd =>
        (⟨(σ.m.insOpt (segParts L σ.next cd).1).insOpt (segParts L σ.next cd).2, σ.next + 2⟩,
         ⟨.ok, .seg (segParts L σ.next cd).1 (segParts L σ.next cd).2⟩)
  | .addBatch id b =>
    let sb := stampBatch L σ.next b
    match σ.m id with
    | none => (⟨σ.m, sb.2.2⟩, ⟨.notFound, .none⟩)
    | some f =>
      if hasBatch L f sb.2.1 then (⟨σ.m, sb.2.2⟩, ⟨.badRequest, .none⟩)
      else (⟨σ.m.upd id (L.addBatch f sb.1), sb.2.2⟩, ⟨.ok, .id sb.2.1⟩)
  | .getBatch id bid =>
    (σ, match σ.m id with
        | none => ⟨.notFound, .none⟩
        | some f =>
          match (L.batches f).find? (isBatch L bid) with
          | some b => ⟨.ok, .batch b⟩
          | none => ⟨.notFound, .none⟩)
  | .batches id => (σ, ⟨.ok, .batches ((σ.m id).map L.batches)⟩)
  | .delBatch id bid =>
    match σ.m id with
    | none => (σ, ⟨.error, .none⟩)
    | some f =>
      match lastIdx (isBatch L bid) (L.batches f) with
      | some i => (⟨σ.m.upd id (L.dropBatch f i), σ.next⟩, ⟨.ok, .none⟩)
      | none => (σ, ⟨.notFound, .none⟩)

def specRun (L : Lib F T) (σ : Spec F) (reqs : List Req) : Spec F := reqs.foldl (fun σ r => (specStep L σ r).1) σ

def Enumerates (fs : Files F) (m : Map F) : Prop :=
  (fs.map (·.1)).Nodup ∧ ∀ k f, (k, f) ∈ fs ↔ m k = some f

def RespOK (L : Lib F T) (σ : Spec F) (r : Req) (out : Resp F T) : Prop :=
  match r with
  | .list => out.status = .ok ∧ ∃ fs, Enumerates fs σ.m ∧ out.body = .files (fs.map (·.2))
  | _ => out = (specStep L σ r).2

def RespsOK (L : Lib F T) : Spec F → List Req → List (Resp F T) → Prop
  | _, [], [] => True
  | σ, r :: rs, o :: os => RespOK L σ r o ∧ RespsOK L (specStep L σ r).1 rs os
  | _, _, _ => False

theorem find_cons (p : Id × F) (fs : Files F) (k : Id) :
    find (p :: fs) k = if p.1 = k then some p.2 else find fs k := by
  cases p; rfl

theorem find_store_isNone (fs : Files F) (id : Id) (f : F) : (store fs id f).isNone = (find fs id).isSome := by
  unfold store; cases find fs id <;> rfl

theorem find_keep (fs : Files F) (id : Id) (f : F) : find (keep fs id f) = Map.ins (find fs) id f := by
  unfold keep store Map.ins
  cases h : find fs id with
  | some g => rfl
  | none =>
    funext k
    simp only [Option.getD_some, find_cons, Map.upd, eq_comm, Option.isSome_none, Bool.false_eq_true, if_false]

theorem find_keepOpt (fs : Files F) (o : Option (Id × F)) : find (keepOpt fs o) = Map.insOpt (find fs) o := by
  cases o with
  | none => rfl
  | some p => exact find_keep fs p.1 p.2

theorem find_erase (fs : Files F) (id : Id) : find (erase fs id) = Map.del (find fs) id := by
  funext k
  induction fs with
  | nil => exact (ite_self none).symm
  | cons p fs ih =>
    unfold erase Map.del at ih ⊢
    rw [List.filter_cons]
    grind [find_cons]

theorem find_put_eq (fs : Files F) (id : Id) (f : F) (k : Id) :
    find (put fs id f) k = if k = id then (find fs id).map (fun _ => f) else find fs k := by
  induction fs with
  | nil => exact (ite_self none).symm
  | cons p fs ih =>
    unfold put at ih ⊢
    rw [List.map_cons, find_cons, find_cons, find_cons, ih]
    grind

theorem find_put {fs : Files F} {id : Id} {f g : F} (h : find fs id = some g) :
    find (put fs id f) = Map.upd (find fs) id f := by
  funext k
  rw [find_put_eq, h]; rfl

theorem step_refines (L : Lib F T) (s : State F) (r : Req) (hr : r ≠ .list) :
    (abs (step L s r).1, (step L s r).2) = specStep L (abs s) r := by
  cases r with
  | list => exact absurd rfl hr
  | create path json body opts =>
    dsimp only [step, createFile, specStep, abs]
    rw [find_store_isNone, ← keep, find_keep]
  | delete id => dsimp only [step, deleteFile, specStep, abs]; rw [find_erase]
  | batches id => rfl
  | get id | validate id o =>
    dsimp only [step, getFile, validateFile, specStep, abs]
    cases find s.files id <;> rfl
  | getBatch id bid =>
    dsimp only [step, getBatch, specStep, abs]
    cases find s.files id with
    | none => rfl
    | some f => dsimp only; cases (L.batches f).find? (isBatch L bid) <;> rfl
  | contents id c | build id =>
    dsimp only [step, getFileContents, buildFile, specStep, abs]
    cases h : find s.files id with
    | none => rfl
    | some f => exact Prod.ext (congrArg (Spec.mk · s.next) (find_put h)) rfl
  | flatten id =>
    dsimp only [step, flattenBatches, specStep, abs]
    cases h : find s.files id with
    | none => rfl
    | some f =>
      dsimp only
      cases (L.create f).2.isSome <;> cases (L.flatten (L.create f).1).2 <;>
        simp only [find_keep, find_put h, Bool.false_eq_true, if_false, if_true]
  | segment id =>
    dsimp only [step, segmentFileID, storeSegments, specStep, abs]
    cases h : find s.files id with
    | none => rfl
    | some f => dsimp only; cases (svcSegment L f).2 <;> simp only [find_keepOpt, find_put h]
  | segmentBody j b o =>
    dsimp only [step, segmentFile, storeSegments, specStep, abs]
    cases decodeSegment L j b o with
    | none => rfl
    | some f => dsimp only; cases (svcSegment L (withOpts L f o)).2 <;> simp only [find_keepOpt]
  | addBatch id b =>
    dsimp only [step, createBatch, specStep, abs]
    cases h : find s.files id with
    | none => rfl
    | some f =>
      dsimp only
      cases hasBatch L f (stampBatch L s.next b).2.1 <;>
        simp only [find_put h, Bool.false_eq_true, if_false, if_true]
  | delBatch id bid =>
    dsimp only [step, deleteBatch, specStep, abs]
    cases h : find s.files id with
    | none => rfl
    | some f => dsimp only; cases lastIdx (isBatch L bid) (L.batches f) <;> simp only [find_put h]

theorem step_refines_state (L : Lib F T) (s : State F) (r : Req) :
    abs (step L s r).1 = (specStep L (abs s) r).1 := by
  by_cases hr : r = .list
  · subst hr; rfl
  · exact congrArg Prod.fst (step_refines L s r hr)

theorem step_refines_resp (L : Lib F T) (s : State F) (r : Req) (hr : r ≠ .list := by nofun) :
    (step L s r).2 = (specStep L (abs s) r).2 :=
  congrArg Prod.snd (step_refines L s r hr)

def keys (fs : Files F) : List Id := fs.map (·.1)

/-- no key twice; needed only for `GET /files` -/
def Inv (s : State F) : Prop := (keys s.files).Nodup

theorem find_none_iff {fs : Files F} {id : Id} : find fs id = none ↔ id ∉ keys fs := by
  induction fs with
  | nil => exact ⟨fun _ => List.not_mem_nil, fun _ => rfl⟩
  | cons p fs ih =>
    rw [find_cons, keys, List.map_cons, List.mem_cons, ← keys]
    grind

theorem keys_put (fs : Files F) (id : Id) (f : F) : keys (put fs id f) = keys fs := by
  unfold keys put
  rw [List.map_map]
  exact List.map_congr_left fun p _ => by dsimp only [Function.comp]; split <;> simp [*]

theorem nodup_erase {fs : Files F} {id : Id} (h : (keys fs).Nodup) : (keys (erase fs id)).Nodup :=
  List.Nodup.sublist (List.Sublist.map _ List.filter_sublist) h

theorem nodup_keep {fs : Files F} {id : Id} {f : F} (h : (keys fs).Nodup) : (keys (keep fs id f)).Nodup := by
  unfold keep store
  cases hf : find fs id with
  | some g => exact h
  | none => exact List.nodup_cons.mpr ⟨find_none_iff.mp hf, h⟩

theorem nodup_keepOpt {fs : Files F} {o : Option (Id × F)} (h : (keys fs).Nodup) : (keys (keepOpt fs o)).Nodup := by
  cases o with
  | none => exact h
  | some p => exact nodup_keep h

/-- every handler leaves the list alone or changes it by `put`, `keep`, `keepOpt`, `erase`, which keep the keys distinct -/
theorem inv_step (L : Lib F T) (s : State F) (r : Req) (h : Inv s) : Inv (step L s r).1 := by
  unfold Inv at *
  cases r with
  | create path json body opts => exact nodup_keep h
  | _ =>
    dsimp only [step, getFile, getFiles, deleteFile, getFileContents, validateFile, buildFile, flattenBatches,
      segmentFileID, segmentFile, storeSegments, createBatch, getBatch, getBatches, deleteBatch]
    (repeat' split) <;> simp only [keys_put, nodup_keep, nodup_keepOpt, nodup_erase, h]

theorem enumerates_of_nodup {fs : Files F} (h : (keys fs).Nodup) : Enumerates fs (find fs) := by
  refine ⟨h, fun k f => ?_⟩
  induction fs with
  | nil => exact ⟨nofun, nofun⟩
  | cons p fs ih =>
    obtain ⟨hp, h⟩ := List.nodup_cons.mp h
    rw [List.mem_cons, find_cons, ih h]
    by_cases hk : p.1 = k
    · subst hk
      rw [if_pos rfl, find_none_iff.mpr hp]
      exact ⟨fun h => h.elim (fun e => e ▸ rfl) nofun, fun e => .inl (Prod.ext rfl (Option.some.inj e).symm)⟩
    · rw [if_neg hk]
      exact ⟨fun h => h.resolve_left fun e => hk (e ▸ rfl), .inr⟩

theorem step_respOK (L : Lib F T) (s : State F) (r : Req) (h : Inv s) : RespOK L (abs s) r (step L s r).2 := by
  unfold RespOK
  split
  · exact ⟨rfl, s.files, enumerates_of_nodup h, rfl⟩
  · next hr => exact step_refines_resp L s r hr

theorem run_refines (L : Lib F T) (s : State F) (h : Inv s) (reqs : List Req) :
    abs (run L s reqs).1 = specRun L (abs s) reqs ∧ RespsOK L (abs s) reqs (run L s reqs).2 ∧ Inv (run L s reqs).1 := by
  induction reqs generalizing s with
  | nil => exact ⟨rfl, trivial, h⟩
  | cons r rs ih =>
    obtain ⟨h1, h2, h3⟩ := ih (step L s r).1 (inv_step L s r h)
    rw [step_refines_state] at h1 h2
    exact ⟨h1, ⟨step_respOK L s r h, h2⟩, h3⟩

theorem inv_init : Inv (init : State F) := List.nodup_nil

theorem run_induct (L : Lib F T) (P : State F → Prop) (reqs : List Req)
    (hstep : ∀ s, ∀ r ∈ reqs, P s → P (step L s r).1) (s : State F) (h : P s) : P (run L s reqs).1 := by
  induction reqs generalizing s with
  | nil => exact h
  | cons r rs ih =>
    exact ih (fun s r' hr' => hstep s r' (List.mem_cons_of_mem _ hr')) _ (hstep s r (List.mem_cons_self ..) h)

theorem find_step (L : Lib F T) (s : State F) (r : Req) : find (step L s r).1.files = (specStep L (abs s) r).1.m :=
  congrArg Spec.m (step_refines_state L s r)

theorem next_step (L : Lib F T) (s : State F) (r : Req) : (step L s r).1.next = (specStep L (abs s) r).1.next :=
  congrArg Spec.next (step_refines_state L s r)

def Frame (w : Option Id) (new : Id → Prop) (m m' : Map F) : Prop :=
  (∀ k f, m k = some f → w ≠ some k → m' k = some f) ∧ ∀ k, m k = none → m' k ≠ none → new k

section
variable {w : Option Id} {new : Id → Prop} {m m' : Map F}

theorem Frame.refl : Frame w new m m := ⟨fun _ _ h _ => h, fun _ h h' => absurd h h'⟩

theorem Frame.upd {id : Id} {f g : F} (h : m id = some f) : Frame (some id) new m (m.upd id g) := by
  refine ⟨fun k _ hk hw => ?_, fun k hk h' => ?_⟩
  · rw [Map.upd_of_ne fun e => hw (congrArg some e.symm), hk]
  · rw [Map.upd_of_ne fun e => by rw [e, h] at hk; cases hk] at h'
    exact absurd hk h'

theorem Frame.del {id : Id} : Frame (some id) new m (m.del id) := by
  refine ⟨fun k _ hk hw => ?_, fun k hk h' => ?_⟩
  · exact (if_neg fun e => hw (congrArg some e.symm)).trans hk
  · unfold Map.del at h'
    split at h'
    · exact absurd rfl h'
    · exact absurd hk h'

theorem Frame.ins {id : Id} {g : F} (h : Frame w new m m') (hid : new id) : Frame w new m (m'.ins id g) := by
  refine ⟨fun k f hk hw => Map.ins_of_some (h.1 k f hk hw), fun k hk h' => ?_⟩
  by_cases hm : m' k = none
  · exact Map.ins_new hm h' ▸ hid
  · exact h.2 k hk hm

/-- `o.map fun a => (id, e a)` is the form in which `segParts` stamps a part with its generated ID -/
theorem Frame.insOpt_map {α : Type} {id : Id} {o : Option α} {e : α → F} (h : Frame w new m m') (hid : new id) :
    Frame w new m (m'.insOpt (o.map fun a => (id, e a))) := by
  cases o with
  | none => exact h
  | some a => exact h.ins hid

end

theorem spec_frame (L : Lib F T) (σ : Spec F) (r : Req) :
    Frame r.writes
      (fun k => (∃ p j b o, r = .create p j b o ∧ k = (decodeCreate L σ.next p j b o).id) ∨
        k = L.freshId σ.next ∨ k = L.freshId (σ.next + 1))
      σ.m (specStep L σ r).1.m := by
  fun_cases specStep L σ r <;> try exact .refl
  -- left: the branches of `specStep` that change the map, in the order of the definition
  · exact Frame.refl.ins (.inl ⟨_, _, _, _, rfl, rfl⟩)  -- create
  · exact .del  -- delete
  · exact .upd ‹_›  -- contents
  · exact .upd ‹_›  -- build
  · exact .upd ‹_›  -- flatten, `Create` failed
  · exact .upd ‹_›  -- flatten, `Flatten` failed
  · exact (Frame.upd ‹_›).ins (.inr (.inl rfl))  -- flatten
  · exact .upd ‹_›  -- segment, failed
  · exact ((Frame.upd ‹_›).insOpt_map (.inr (.inl rfl))).insOpt_map (.inr (.inr rfl))  -- segment
  · exact (Frame.refl.insOpt_map (.inr (.inl rfl))).insOpt_map (.inr (.inr rfl))  -- segmentBody
  · exact .upd ‹_›  -- addBatch
  · exact .upd ‹_›  -- delBatch

theorem create_ok_stored {L : Lib F T} {s : State F} {path : Option Id} {json : Bool} {body : Tok} {opts : Opts}
    {id : Id} {f : F} (h : (step L s (.create path json body opts)).2 = ⟨.ok, .idFile id f⟩) :
    find (step L s (.create path json body opts)).1.files id = some f := by
  rw [step_refines_resp L s (.create path json body opts)] at h
  rw [find_step]
  dsimp only [specStep, abs] at h ⊢
  obtain ⟨hst, hb⟩ := Resp.mk.inj h
  obtain ⟨rfl, rfl⟩ := Body.idFile.inj hb
  refine Map.ins_self ?_
  -- the answer is 200 only if the ID was free
  cases hd : find s.files (decodeCreate L s.next path json body opts).id with
  | none => rfl
  | some g =>
    simp only [hd, Option.isSome_some, if_true] at hst
    split at hst <;> cases hst

/-- the key a request is *meant* to alter (the API's editing requests) -/
def Req.edits : Req → Option Id
  | .delete id | .addBatch id _ | .delBatch id _ => some id
  | _ => none

/-- the library leaves `f` as it is when the server runs `Create` / `FlattenBatches` / `SegmentFile` on it -/
def Stable (L : Lib F T) (f : F) : Prop := (L.create f).1 = f ∧ (L.flatten f).1 = f ∧ (L.segment f).1 = f

theorem svcSegment_of_stable {L : Lib F T} {f : F} (hs : Stable L f) : (svcSegment L f).1 = f := by
  unfold svcSegment
  simp only [hs.1]
  split
  · rfl
  · split <;> exact hs.2.2

end Ach.Server
