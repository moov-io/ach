import Ach.Proofs.GoLite
/-!
# Running a translated function one statement at a time

First the small facts the steps need about locals (`update`, `lookup`) and expressions (`and`, `or`, comparisons of
numbers, `errors.New`, `strconv.Atoi`).  Then equations and inversions for single statements — a sequence whose first statement is known to fall through, return or
stop; a guard, a call, a `switch` case that fell through; a `range` loop whose body always falls through (`iter_fold`,
`exec_forEach_fold`, `forEach_sums`), that fell through itself (`forEach_visits`, `iter_cons_next`) or that returns at
the first index failing a test (`iter_all`); `if !f() {…} else {…}` (`exec_callSwitch`); `noExit` — so that a proof
about a function steps through it, naming its pieces, instead of unfolding it whole.
-/
namespace Ach.GoLite

theorem update_length : ∀ {l l' : Locals} {n : String} {v : Val}, update l n v = some l' → l'.length = l.length := by
  intro l
  induction l with
  | nil => intro l' n v h; simp [update] at h
  | cons x r ih =>
      intro l' n v h
      obtain ⟨k, w⟩ := x
      simp only [update] at h
      split at h
      · cases h; rfl
      · obtain ⟨r', hr', rfl⟩ := Option.map_eq_some_iff.mp h
        simp [ih hr']

theorem lookup_append_of_not_mem (pre l : Locals) (k : String) (h : k ∉ pre.map Prod.fst) :
    lookup (pre ++ l) k = lookup l k := by
  induction pre with
  | nil => rfl
  | cons x xs ih =>
      simp only [List.map_cons, List.mem_cons, not_or] at h
      have hne : (x.1 == k) = false := beq_eq_false_iff_ne.mpr (fun e => h.1 e.symm)
      simp only [List.cons_append, lookup, hne]
      exact ih h.2

theorem lookup_cons_self (n : String) (v : Val) (r : List (String × Val)) : lookup ((n, v) :: r) n = v := by
  simp [lookup]

theorem lookup_cons_ne {k n : String} (h : k ≠ n) (v : Val) (r : List (String × Val)) :
    lookup ((k, v) :: r) n = lookup r n := by
  simp [lookup, h]

theorem eval_and {c : Ctx} {l : Locals} {a b : Expr} {x y : Bool} (ha : eval c l a = .bool x)
    (hb : eval c l b = .bool y) : eval c l (.and a b) = .bool (x && y) := by
  simp only [eval, ha, hb]
  cases x <;> rfl

theorem eval_or {c : Ctx} {l : Locals} {a b : Expr} {x y : Bool} (ha : eval c l a = .bool x)
    (hb : eval c l b = .bool y) : eval c l (.or a b) = .bool (x || y) := by
  simp only [eval, ha, hb]
  cases x <;> rfl

/-- `≤` and `==` on natural numbers held as `int` values (rune and byte codes) -/
theorem eval_le_nat {c : Ctx} {l : Locals} {a b : Expr} {x y : Nat} (ha : eval c l a = .int x)
    (hb : eval c l b = .int y) : eval c l (.le a b) = .bool (decide (x ≤ y)) := by
  simp [eval, ha, hb, cmpVals]

theorem eval_eq_nat {c : Ctx} {l : Locals} {a b : Expr} {x y : Nat} (ha : eval c l a = .int x)
    (hb : eval c l b = .int y) : eval c l (.eq a b) = .bool (x == y) := by
  simp only [eval, ha, hb, cmpVals, Int.natCast_inj]
  rfl

theorem cmpVals_ne_str {a : Str} {v : Val} (h : cmpVals "ne" (.str a) v = .bool false) : v = .str a := by
  cases v <;> simp [cmpVals] at h
  rw [h]

/-- what `strconv.Atoi` hands to the embedding: nothing (a clamped range error), `0` with an error, or the number -/
theorem atoi_builtin (ext : List (String × Bool)) (s : Str) :
    builtin1 ext "strconv.Atoi" (.str s) = .bad ∨
    (atoi s = none ∧ builtin1 ext "strconv.Atoi" (.str s) = .pair (.int 0) (.err (some ""))) ∨
    ∃ v, atoi s = some v ∧ builtin1 ext "strconv.Atoi" (.str s) = .pair (.int v) (.err none) := by
  simp only [builtin1]
  cases atoi s with
  | none => exact Or.inr (Or.inl ⟨rfl, rfl⟩)
  | some v =>
      simp only
      split
      · exact Or.inl rfl
      · exact Or.inr (Or.inr ⟨v, rfl, rfl⟩)

theorem exec_seq_next {a b : Prog} {c : Ctx} {l l1 : Locals} (h : exec a c l = (l1, .next)) :
    exec (.seq a b) c l = exec b c l1 := by
  simp only [exec, h]

theorem exec_seq_of_next {a b : Prog} {c : Ctx} {l : Locals} (h : (exec a c l).2 = .next) :
    exec (.seq a b) c l = exec b c (exec a c l).1 :=
  exec_seq_next (Prod.ext rfl h)

theorem exec_seq_stop {a b : Prog} {c : Ctx} {l : Locals} (h : (exec a c l).2 ≠ .next) :
    exec (.seq a b) c l = exec a c l := by
  simp only [exec]
  split
  · rename_i hx; rw [hx] at h; exact absurd rfl h
  · rfl

theorem exec_seq_ret {a b : Prog} {c : Ctx} {l : Locals} {v : Val} (h : (exec a c l).2 = .ret v) :
    (exec (.seq a b) c l).2 = .ret v := by
  rw [exec_seq_stop (by rw [h]; nofun), h]

theorem seq_next_left {a b : Prog} {c : Ctx} {l : Locals} (h : (exec (.seq a b) c l).2 = .next) :
    (exec a c l).2 = .next := by
  by_cases hn : (exec a c l).2 = .next
  · exact hn
  · rwa [exec_seq_stop hn] at h

/-- `seqs [] = skip`, so the last statement is no special case. -/
theorem exec_seqs_cons_next {p : Prog} {ps : List Prog} {c : Ctx} {l l1 : Locals} (h : exec p c l = (l1, .next)) :
    exec (seqs (p :: ps)) c l = exec (seqs ps) c l1 := by
  cases ps with
  | nil => simp only [seqs, exec, h]
  | cons q qs => exact exec_seq_next h

theorem exec_seq_assoc (a b d : Prog) (c : Ctx) (l : Locals) :
    exec (.seq (.seq a b) d) c l = exec (.seq a (.seq b d)) c l := by
  rcases h : exec a c l with ⟨l1, s⟩
  cases s <;> simp [exec, h]

theorem exec_seqs_snoc (ps : List Prog) (q : Prog) (c : Ctx) (l : Locals) :
    exec (seqs (ps ++ [q])) c l = exec (.seq (seqs ps) q) c l := by
  induction ps generalizing l with
  | nil => rfl -- `seqs [] = .skip`, which falls through
  | cons p ps ih =>
      cases ps with
      | nil => rfl
      | cons p2 ps2 =>
          rw [show seqs ((p :: p2 :: ps2) ++ [q]) = .seq p (seqs ((p2 :: ps2) ++ [q])) from rfl,
            show seqs (p :: p2 :: ps2) = .seq p (seqs (p2 :: ps2)) from rfl, exec_seq_assoc]
          simp only [exec]
          split
          · exact ih _
          · rfl

theorem seq_ret_nil_iff {a : Prog} {c : Ctx} {l : Locals} :
    (exec (.seq a (.ret .nil)) c l).2 = .ret (.err none) ↔ (exec a c l).2 = .next ∨ (exec a c l).2 = .ret (.err none) := by
  by_cases hn : (exec a c l).2 = .next
  · rw [exec_seq_of_next hn]; simp [hn, exec, eval]
  · rw [exec_seq_stop hn]; simp [hn]

theorem exec_bind {x : String} {e : Expr} {c : Ctx} {l : Locals} {v : Val} (he : eval c l e = v) (hv : v ≠ .bad) :
    exec (.bind x e) c l = ((x, v) :: l, .next) := by
  simp only [exec, he]

theorem exec_bind_int (x : String) (k : Int) (c : Ctx) (l : Locals) :
    exec (.bind x (.int k)) c l = ((x, .int k) :: l, .next) :=
  exec_bind rfl nofun

theorem exec_ite_true {cnd : Expr} {t e : Prog} {c : Ctx} {l : Locals} (h : eval c l cnd = .bool true) :
    (exec (.ite cnd t e) c l).2 = (exec t c l).2 := by
  simp only [exec, h]

theorem exec_ite_false {cnd : Expr} {t e : Prog} {c : Ctx} {l : Locals} (h : eval c l cnd = .bool false) :
    (exec (.ite cnd t e) c l).2 = (exec e c l).2 := by
  simp only [exec, h]

theorem exec_block_sig {p : Prog} {c : Ctx} {l : Locals} : (exec (.block p) c l).2 = (exec p c l).2 := rfl

theorem guard_next {cnd e : Expr} {c : Ctx} {l : Locals} (h : (exec (.ite cnd (.ret e) .skip) c l).2 = .next) :
    eval c l cnd = .bool false ∧ exec (.ite cnd (.ret e) .skip) c l = (l, .next) := by
  simp only [exec] at h ⊢
  split at h
  · cases h
  · rename_i hc
    simp [hc, scopeExit_self]
  · cases h

theorem exec_guard {cnd : Expr} {t rest : Prog} {c : Ctx} {l : Locals} {b : Bool} {s : Sig}
    (hc : eval c l cnd = .bool b) (ht : exec t c l = (l, s)) (hs : s ≠ .next) :
    exec (.seq (.ite cnd t .skip) rest) c l = if b then (l, s) else exec rest c l := by
  cases b <;> simp [exec, hc, ht, scopeExit_self, hs]

/-- Go's `if x := e; cnd { t }` before `rest`, for a `t` that leaves at once: `x` is gone after the statement -/
theorem exec_initGuard {x : String} {e cnd : Expr} {t rest : Prog} {c : Ctx} {l : Locals} {v : Val} {b : Bool} {s : Sig}
    (he : eval c l e = v) (hv : v ≠ .bad) (hc : eval c ((x, v) :: l) cnd = .bool b)
    (ht : exec t c ((x, v) :: l) = ((x, v) :: l, s)) (hs : s ≠ .next) :
    exec (.seq (.block (.seq (.bind x e) (.ite cnd t .skip))) rest) c l = if b then (l, s) else exec rest c l := by
  have hx : scopeExit l ((x, v) :: l) = l := scopeExit_cons_append [] _ l
  rw [exec, exec, exec_seq_next (exec_bind he hv)]
  cases b <;> simp [exec, hc, ht, scopeExit_self, hx, hs]

theorem unless_flag_next {src flag : String} {body : Prog} {c : Ctx} {l : Locals} (hf : hasFlag c src flag = false)
    (h : (exec (.ite (.not (.flag src flag)) body .skip) c l).2 = .next) : (exec body c l).2 = .next := by
  rwa [exec_ite_true (by simp [eval, hf])] at h

/-- one `case k:` of a `switch x` -/
theorem exec_case_sig {x : String} {k s : Int} {t e : Prog} {c : Ctx} {l : Locals} (hl : lookup l x = .int s) :
    (exec (.ite (.eq (.var x) (.int k)) t e) c l).2 = if s = k then (exec t c l).2 else (exec e c l).2 := by
  by_cases h : s = k <;> simp [exec, eval, hl, cmpVals, h]

/-- `if !f() { a } else { b }` as translated, for a parameterless `f` that returns a Bool: the selected branch runs with
the temporary declared, and the block drops the temporary again -/
theorem exec_callSwitch {f a b : Prog} {t : String} {c : Ctx} {l : Locals} {v : Bool}
    (hf : (exec f c []).2 = .ret (.bool v)) :
    exec (.block (.seq (.sub t [] [] f) (.ite (.not (.var t)) a b))) c l =
      (scopeExit l (scopeExit ((t, .bool v) :: l) (exec (bif v then b else a) c ((t, .bool v) :: l)).1),
        (exec (bif v then b else a) c ((t, .bool v) :: l)).2) := by
  cases v <;> simp [exec, eval, hf, subResult, lookup]

theorem exec_callSwitch_sig {f a b : Prog} {t : String} {c : Ctx} {l : Locals} {v : Bool}
    (hf : (exec f c []).2 = .ret (.bool v)) :
    (exec (.block (.seq (.sub t [] [] f) (.ite (.not (.var t)) a b))) c l).2 =
      (exec (bif v then b else a) c ((t, .bool v) :: l)).2 := by
  rw [exec_callSwitch hf]

theorem check_passes (c : Ctx) (pre : Locals) (tag : Option String) (body : Prog)
    (h : (exec (.check tag body) c pre).2 = .next) : (exec body c []).2 = .ret (.err none) :=
  checkResult_next h

theorem checkOn_next {tag : Option String} {recv : Expr} {params : List String} {args : List Expr} {body : Prog}
    {c : Ctx} {l : Locals} (h : (exec (.checkOn tag recv params args body) c l).2 = .next) :
    ∃ p, eval c l recv = .ref p ∧
      (exec body { c with recv := p } (params.zip (args.map (eval c l))).reverse).2 = .ret (.err none) := by
  simp only [exec] at h
  split at h
  · rename_i p hp
    split at h
    · simp at h
    · exact ⟨p, hp, checkResult_next h⟩
  · simp at h

theorem checkOn_passes {tag : Option String} {recv : Expr} {params : List String} {args : List Expr} {body : Prog}
    {c : Ctx} {l : Locals} {p : String} (hr : eval c l recv = .ref p)
    (h : (exec (.checkOn tag recv params args body) c l).2 = .next) :
    (exec body { c with recv := p } (params.zip (args.map (eval c l))).reverse).2 = .ret (.err none) := by
  obtain ⟨p', hp', hb⟩ := checkOn_next h
  cases hr.symm.trans hp'
  exact hb

/-- no `break` / `continue` outside nested loops: the statement never hands one of them to an enclosing loop -/
def noExit : Prog → Bool
  | .brk | .cont => false
  | .ite _ t e => noExit t && noExit e
  | .seq a b => noExit a && noExit b
  | .block p => noExit p
  | _ => true

theorem iter_no_exit (f : Locals → Locals × Sig) (mk : Nat → Val) (v : String) (is : List Nat) (l : Locals) :
    (iter f mk v is l).2 ≠ .brk ∧ (iter f mk v is l).2 ≠ .cont := by
  obtain h | ⟨l', h, _, hc, hb⟩ := iter_sig f mk v is l <;> rw [h]
  · exact ⟨nofun, nofun⟩
  · exact ⟨hb, hc⟩

theorem noExit_sig : ∀ p, noExit p = true → ∀ (c : Ctx) l, (exec p c l).2 ≠ .brk ∧ (exec p c l).2 ≠ .cont := by
  have call tag c l := check_cases (fun r => r.2 ≠ .brk ∧ r.2 ≠ .cont) tag c l (by simp)
    (fun s => by unfold checkResult; split <;> simp)
  have sub x c l := sub_cases (fun r => r.2 ≠ .brk ∧ r.2 ≠ .cont) x c l (by simp)
    (fun s => by unfold subResult; split <;> simp)
  have loop v body c l := loop_cases (fun r => r.2 ≠ .brk ∧ r.2 ≠ .cont) v body c l (by simp)
    (fun _ _ => iter_no_exit ..)
  intro p
  induction p with
  | ite cnd t e iht ihe =>
      intro hn c l
      simp [noExit] at hn
      simp only [exec]
      split
      · exact iht hn.1 c l
      · exact ihe hn.2 c l
      · simp
  | seq a b iha ihb =>
      intro hn c l
      simp [noExit] at hn
      simp only [exec]
      split
      · exact ihb hn.2 c _
      · exact iha hn.1 c l
  | block p ih => intro hn c l; simp [noExit] at hn; simp only [exec]; exact ih hn c l
  | check tag body _ => intro _ c l; exact (call tag c l).1 body
  | checkOn tag recv params args body _ => intro _ c l; exact (call tag c l).2 recv params args body
  | sub x params args body _ => intro _ c l; exact (sub x c l).1 params args body
  | subOn x recv params args body _ => intro _ c l; exact (sub x c l).2 recv params args body
  | forEach v coll body _ => intro _ c l; exact (loop v body c l).1 coll
  | forIdx v coll body _ => intro _ c l; exact (loop v body c l).2 coll
  | brk | cont => intro hn; simp [noExit] at hn
  | bind x e | bind2 x y e => intro _ c l; simp only [exec]; split <;> simp
  | assign x e | assign2 x y e => intro _ c l; simp only [exec]; split <;> (try simp) <;> split <;> simp
  | _ => intro _ c l; simp [exec]

theorem noExit_next (p : Prog) (h : noExit p = true) (c : Ctx) (l : Locals) (hp : passing (exec p c l).2) :
    (exec p c l).2 = .next := by
  have := noExit_sig p h c l
  rcases hp with hp | hp | hp <;> simp_all

theorem exec_forEach_lst {v : String} {coll : Expr} {body : Prog} {c : Ctx} {l : Locals} {p : String} {n : Nat}
    (h : eval c l coll = .lst p n) :
    exec (.forEach v coll body) c l =
      iter (fun l' => exec body c l') (fun i => .ref (elemPath p i)) v (List.range n) l := by
  simp only [exec, h]

theorem exec_forIdx_lst {v : String} {coll : Expr} {body : Prog} {c : Ctx} {l : Locals} {p : String} {n : Nat}
    (h : eval c l coll = .lst p n) :
    exec (.forIdx v coll body) c l = iter (fun l' => exec body c l') (fun k => .int k) v (List.range n) l := by
  simp only [exec, h]

/-- `st` gives the locals as a function of an abstract accumulator; the body takes `st a` to `st (g a i)`. -/
theorem iter_fold {α : Type} (f : Locals → Locals × Sig) (mk : Nat → Val) (v : String) (st : α → Locals)
    (g : α → Nat → α) :
    ∀ is : List Nat, (∀ i ∈ is, ∀ a, (f ((v, mk i) :: st a)).2 = .next ∧
        scopeExit (st a) (f ((v, mk i) :: st a)).1 = st (g a i)) →
      ∀ a, iter f mk v is (st a) = (st (is.foldl g a), .next) := by
  intro is
  induction is with
  | nil => intro _ a; rfl
  | cons i is ih =>
      intro hb a
      obtain ⟨h1, h2⟩ := hb i (List.mem_cons_self ..) a
      simp only [iter, h1, h2, List.foldl_cons]
      exact ih (fun j hj => hb j (List.mem_cons_of_mem _ hj)) (g a i)

theorem foldl_add_sum (h : Nat → Int) (is : List Nat) (a : Int) :
    is.foldl (fun a i => a + h i) a = a + (is.map h).sum := by
  induction is generalizing a with
  | nil => simp
  | cons i is ih => simp only [List.foldl_cons, ih, List.map_cons, List.sum_cons]; omega

theorem foldl_add_sum2 (h k : Nat → Int) (is : List Nat) (a : Int × Int) :
    is.foldl (fun a i => (a.1 + h i, a.2 + k i)) a = (a.1 + (is.map h).sum, a.2 + (is.map k).sum) := by
  induction is generalizing a with
  | nil => simp
  | cons i is ih => simp only [List.foldl_cons, ih, List.map_cons, List.sum_cons, Int.add_assoc]

/-- a loop body that computes to `(pre ++ l', .next)`: it fell through, and leaving its scope drops `pre` when `l'` has as
many variables as the locals `l` of the loop (the form `iter_fold` and `forEach_sums` ask for) -/
theorem step_of_exec {body : Prog} {c : Ctx} {l0 l l' : Locals} (pre : Locals) (h : exec body c l0 = (pre ++ l', .next))
    (hlen : l'.length = l.length) : (exec body c l0).2 = .next ∧ scopeExit l (exec body c l0).1 = l' := by
  rw [h]
  exact ⟨rfl, by simp [scopeExit, hlen]⟩

theorem exec_forEach_fold {α : Type} {c : Ctx} {v : String} {coll : Expr} {body : Prog} {p : String} {n : Nat}
    (st : α → Locals) (g : α → Nat → α) (a : α) (hcoll : eval c (st a) coll = .lst p n)
    (hbody : ∀ i, i < n → ∀ a, (exec body c ((v, .ref (elemPath p i)) :: st a)).2 = .next ∧
      scopeExit (st a) (exec body c ((v, .ref (elemPath p i)) :: st a)).1 = st (g a i)) :
    exec (.forEach v coll body) c (st a) = (st ((List.range n).foldl g a), .next) := by
  simp only [exec, hcoll]
  exact iter_fold _ _ v st g _ (fun i hi => hbody i (List.mem_range.mp hi)) a

theorem forEach_sums {v : String} {coll : Expr} {body : Prog} {c : Ctx} {p : String} {n : Nat} (st : Int → Locals)
    (h : Nat → Int) (a : Int) (hcoll : eval c (st a) coll = .lst p n)
    (hbody : ∀ i, i < n → ∀ a, (exec body c ((v, .ref (elemPath p i)) :: st a)).2 = .next ∧
      scopeExit (st a) (exec body c ((v, .ref (elemPath p i)) :: st a)).1 = st (a + h i)) :
    exec (.forEach v coll body) c (st a) = (st (a + ((List.range n).map h).sum), .next) := by
  rw [exec_forEach_fold st (fun a i => a + h i) a hcoll hbody, foldl_add_sum]

theorem iter_cons_next {f : Locals → Locals × Sig} {mk : Nat → Val} {v : String} {i : Nat} {is : List Nat} {l : Locals}
    (hne : (f ((v, mk i) :: l)).2 ≠ .brk ∧ (f ((v, mk i) :: l)).2 ≠ .cont)
    (h : (iter f mk v (i :: is) l).2 = .next) :
    (f ((v, mk i) :: l)).2 = .next ∧ (iter f mk v is (scopeExit l (f ((v, mk i) :: l)).1)).2 = .next := by
  simp only [iter] at h
  split at h
  · exact ⟨by assumption, h⟩
  · exact absurd (by assumption) hne.2
  · exact absurd (by assumption) hne.1
  · rename_i h1 _ _; exact absurd h h1

theorem forEach_visits {v : String} {coll : Expr} {body : Prog} {c : Ctx} {l : Locals} {p : String} {n : Nat}
    (hb : calm body = true) (h : (exec (.forEach v coll body) c l).2 = .next) (hc : eval c l coll = .lst p n) :
    ∀ i, i < n → (exec body c ((v, .ref (elemPath p i)) :: l)).2 = .next := by
  simp only [exec, hc] at h
  exact fun i hi => (iter_falls _ _ v (calm_suffix body hb c) _ l (Or.inl h)).2 i (List.mem_range.mpr hi)

/-- a loop `for _, v := range coll { if err := v.F(); err != nil { return err }; rest }` with a calm `rest` that fell
through: `F` returned nil on every record of the slice -/
theorem forEach_calls_pass {v : String} {coll : Expr} {F rest : Prog} {c : Ctx} {l : Locals} {p : String} {n : Nat}
    (hcalm : calm rest = true) (h : (exec (.forEach v coll (.seq (.checkOn none (.var v) [] [] F) rest)) c l).2 = .next)
    (hcoll : eval c l coll = .lst p n) :
    ∀ i, i < n → (exec F { c with recv := elemPath p i } []).2 = .ret (.err none) := by
  intro i hi
  exact checkOn_passes (by simp [eval, lookup])
    (seq_next_left (forEach_visits (body := .seq _ rest) (by simpa [calm]) h hcoll i hi))

theorem iter_all (f : Locals → Locals × Sig) (mk : Nat → Val) (v : String) (l : Locals) (ok : Nat → Bool) (r : Val) :
    ∀ is : List Nat,
      (∀ i ∈ is, if ok i then ((f ((v, mk i) :: l)).2 = .next ∨ (f ((v, mk i) :: l)).2 = .cont) ∧
          scopeExit l (f ((v, mk i) :: l)).1 = l else (f ((v, mk i) :: l)).2 = .ret r) →
      (iter f mk v is l).2 = if is.all ok then .next else .ret r := by
  intro is
  induction is with
  | nil => intro _; rfl
  | cons i is ih =>
      intro hb
      have hi := hb i (List.mem_cons_self ..)
      have ih' := ih (fun j hj => hb j (List.mem_cons_of_mem _ hj))
      by_cases hok : ok i = true
      · rw [if_pos hok] at hi
        obtain ⟨hs, hl⟩ := hi
        rcases hs with hs | hs <;> simpa only [iter, hs, hl, List.all_cons, hok, Bool.true_and] using ih'
      · rw [if_neg hok] at hi
        simp [iter, hi, hok]

end Ach.GoLite
