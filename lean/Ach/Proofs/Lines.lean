import Ach.Model.Lines
import Ach.Proofs.Field
/-!
# The line splitter: joined records split back, flushed lines are 1..w runes

`stepChar` does one of four things (`stepChar_skip`, `_flush`, `_room`, `_full`); what `runChars` does to a record
and to a run of newlines follows by induction, and the joined-records theorems from those.  The same four cases keep
the invariant `SplitSt.Ok`, which bounds every flushed line.
-/
namespace Ach

theorem runChars_cons (w : Nat) (s : SplitSt) (c : Char) (cs : Str) : runChars w s (c :: cs) = runChars w (stepChar w s c) cs :=
  List.foldl_cons

theorem runChars_append (w : Nat) (s : SplitSt) (a b : Str) : runChars w s (a ++ b) = runChars w (runChars w s a) b :=
  List.foldl_append

theorem stepChar_skip {c : Char} {w : Nat} (out : List Str) (hc : isNL c = true) :
    stepChar w ⟨[], out⟩ c = ⟨[], out⟩ := by
  simp only [stepChar, hc, if_true, List.length_nil, Nat.lt_irrefl, if_false]

theorem stepChar_flush {c : Char} {w : Nat} {cur : Str} (out : List Str) (hc : isNL c = true) (h : cur ≠ []) :
    stepChar w ⟨cur, out⟩ c = ⟨[], out ++ [cur]⟩ := by
  simp only [stepChar, hc, if_true, List.length_pos_iff.2 h]

theorem stepChar_room {c : Char} {w : Nat} {cur : Str} (out : List Str) (hc : isNL c = false)
    (h : cur.length + 1 < w) : stepChar w ⟨cur, out⟩ c = ⟨cur ++ [c], out⟩ := by
  simp only [stepChar, hc, Bool.false_eq_true, if_false, List.length_append, List.length_singleton, h, if_true]

theorem stepChar_full {c : Char} {w : Nat} {cur : Str} (out : List Str) (hc : isNL c = false)
    (h : ¬ cur.length + 1 < w) : stepChar w ⟨cur, out⟩ c = ⟨[], out ++ [cur ++ [c]]⟩ := by
  simp only [stepChar, hc, Bool.false_eq_true, if_false, List.length_append, List.length_singleton, h]

theorem run_partial (w : Nat) (l : Str) (hl : ∀ c ∈ l, isNL c = false) :
    ∀ (pre : Str) (out), pre.length + l.length < w →
    runChars w ⟨pre, out⟩ l = ⟨pre ++ l, out⟩ := by
  induction l with
  | nil => intro pre out _; rw [List.append_nil]; rfl
  | cons c cs ih =>
    intro pre out h
    rw [List.forall_mem_cons] at hl
    rw [List.length_cons] at h
    have h' : (pre ++ [c]).length + cs.length < w := by
      rwa [List.length_append, List.length_singleton, Nat.add_assoc, Nat.add_comm 1]
    rw [runChars_cons, stepChar_room out hl.1 (Nat.lt_of_le_of_lt (Nat.add_le_add_left (Nat.succ_pos _) _) h),
      ih hl.2 _ _ h', List.append_assoc]
    rfl

/-- all but the last character find room; the one that brings the buffer to `w` flushes it -/
theorem run_fill (w : Nat) (l : Str) (hl : ∀ c ∈ l, isNL c = false) (pre : Str) (out) (hne : l ≠ [])
    (h : pre.length + l.length = w) : runChars w ⟨pre, out⟩ l = ⟨[], out ++ [pre ++ l]⟩ := by
  obtain ⟨init, last, rfl⟩ := (List.eq_nil_or_concat l).resolve_left hne
  rw [List.concat_eq_append] at hl h ⊢
  rw [List.forall_mem_append, List.forall_mem_singleton] at hl
  rw [List.length_append, List.length_singleton, ← Nat.add_assoc] at h
  rw [runChars_append, run_partial w init hl.1 pre out (h ▸ Nat.lt_succ_self _), runChars_cons,
    stepChar_full out hl.2 (by rw [List.length_append, h]; exact Nat.lt_irrefl _), List.append_assoc]
  rfl

theorem run_full (w : Nat) (hw : 0 < w) (l : Str) (hlen : l.length = w) (hl : ∀ c ∈ l, isNL c = false) (out) :
    runChars w ⟨[], out⟩ l = ⟨[], out ++ [l]⟩ :=
  run_fill w l hl [] out (List.ne_nil_of_length_pos (hlen ▸ hw)) (by rw [List.length_nil, Nat.zero_add, hlen])

theorem run_sep_empty (w : Nat) (sep : Str) (hs : ∀ c ∈ sep, isNL c = true) (out) :
    runChars w ⟨[], out⟩ sep = ⟨[], out⟩ := by
  induction sep with
  | nil => rfl
  | cons c cs ih =>
    rw [List.forall_mem_cons] at hs
    rw [runChars_cons, stepChar_skip out hs.1, ih hs.2]

/-- a record followed by its separator is flushed as is: when full by its last character, otherwise by the
first newline (so a short record needs one) -/
theorem run_record (w : Nat) (r sep : Str) (hne : r ≠ []) (hlen : r.length ≤ w) (hr : ∀ c ∈ r, isNL c = false)
    (hs : ∀ c ∈ sep, isNL c = true) (h : r.length = w ∨ sep ≠ []) (out) :
    runChars w ⟨[], out⟩ (r ++ sep) = ⟨[], out ++ [r]⟩ := by
  rw [runChars_append]
  by_cases hfull : r.length = w
  · rw [run_full w (hfull ▸ List.length_pos_iff.2 hne) r hfull hr out, run_sep_empty w sep hs]
  · rw [run_partial w r hr [] out (by rw [List.length_nil, Nat.zero_add]; exact Nat.lt_of_le_of_ne hlen hfull),
      List.nil_append]
    cases sep with
    | nil => exact absurd rfl (h.resolve_left hfull)
    | cons c cs =>
      rw [List.forall_mem_cons] at hs
      rw [runChars_cons, stepChar_flush out hs.1 hne, run_sep_empty w cs hs.2]

/-- records joined with newline-only separators split back into exactly those records, provided every record
is full width (then the separators may even be empty) or every separator is non-empty (then the records may
be short: trailing blanks trimmed) -/
theorem split_join_of (w : Nat) (recs : List Str) (seps : List Str)
    (hne : ∀ r ∈ recs, r ≠ []) (hlen : ∀ r ∈ recs, r.length ≤ w) (hnl : ∀ r ∈ recs, ∀ c ∈ r, isNL c = false)
    (hseps : ∀ s ∈ seps, ∀ c ∈ s, isNL c = true) (hcount : seps.length = recs.length)
    (h : (∀ r ∈ recs, r.length = w) ∨ (∀ s ∈ seps, s ≠ [])) :
    ∀ out, runChars w ⟨[], out⟩ (List.flatten (List.zipWith (· ++ ·) recs seps)) = ⟨[], out ++ recs⟩ := by
  induction recs generalizing seps with
  | nil => intro out; rw [List.append_nil]; rfl
  | cons r rs ih =>
    intro out
    cases seps with
    | nil => exact absurd hcount (Nat.succ_ne_zero _).symm
    | cons s ss =>
      simp only [List.forall_mem_cons] at hne hlen hnl hseps h
      rw [List.zipWith_cons_cons, List.flatten_cons, runChars_append,
        run_record w r s hne.1 hlen.1 hnl.1 hseps.1 (h.imp And.left And.left),
        ih ss hne.2 hlen.2 hnl.2 hseps.2 (Nat.succ.inj hcount) (h.imp And.right And.right), List.append_assoc]
      rfl

/-- **split_join**: any list of full-width records joined with *any* newline-only separators
(LF, CRLF, CR, several, or none at all) splits back into exactly those records. -/
theorem split_join (w : Nat) (hw : 0 < w) (recs : List Str) (seps : List Str)
    (hlen : ∀ r ∈ recs, r.length = w) (hnl : ∀ r ∈ recs, ∀ c ∈ r, isNL c = false)
    (hseps : ∀ s ∈ seps, ∀ c ∈ s, isNL c = true) (hcount : seps.length = recs.length) :
    ∀ out, runChars w ⟨[], out⟩ (List.flatten (List.zipWith (· ++ ·) recs seps)) = ⟨[], out ++ recs⟩ :=
  split_join_of w recs seps (fun r hr => List.ne_nil_of_length_pos (hlen r hr ▸ hw))
    (fun r hr => Nat.le_of_eq (hlen r hr)) hnl hseps hcount (.inl hlen)

def SplitSt.Ok (w : Nat) (s : SplitSt) : Prop := s.cur.length < w ∧ ∀ l ∈ s.out, 0 < l.length ∧ l.length ≤ w

theorem stepChar_ok (w : Nat) (s : SplitSt) (c : Char) (h : s.Ok w) : (stepChar w s c).Ok w := by
  obtain ⟨cur, out⟩ := s
  obtain ⟨hcur, hout⟩ : cur.length < w ∧ ∀ l ∈ out, 0 < l.length ∧ l.length ≤ w := h
  have hw := Nat.zero_lt_of_lt hcur
  have flush : ∀ x : Str, 0 < x.length → x.length ≤ w → SplitSt.Ok w ⟨[], out ++ [x]⟩ := fun x h0 hw' =>
    ⟨hw, List.forall_mem_append.2 ⟨hout, List.forall_mem_singleton.2 ⟨h0, hw'⟩⟩⟩
  cases hc : isNL c with
  | true =>
    cases cur with
    | nil => rw [stepChar_skip out hc]; exact ⟨hw, hout⟩
    | cons a cur => rw [stepChar_flush out hc (List.cons_ne_nil _ _)]; exact flush _ (Nat.succ_pos _) (Nat.le_of_lt hcur)
  | false =>
    by_cases hroom : cur.length + 1 < w
    · rw [stepChar_room out hc hroom]; exact ⟨by rw [List.length_append]; exact hroom, hout⟩
    · rw [stepChar_full out hc hroom]
      exact flush _ (by rw [List.length_append]; exact Nat.succ_pos _) (by rw [List.length_append]; exact hcur)

theorem runChars_ok (w : Nat) : ∀ (cs : Str) (s : SplitSt), s.Ok w → (runChars w s cs).Ok w
  | [], _, h => h
  | c :: cs, s, h => runChars_ok w cs _ (stepChar_ok w s c h)

/-- **lines_at_most_94** (with `w = 94`): for every input text, every line the Reader's loop flushes has between 1 and
`w` runes — so `readLine`'s long-line branch (and `processFixedWidthFile`) is unreachable and padding never overflows -/
theorem splitLines_width (w : Nat) (hw : 0 < w) (cs : Str) : ∀ l ∈ splitLines w cs, 0 < l.length ∧ l.length ≤ w := by
  obtain ⟨hcur, hout⟩ := runChars_ok w cs ⟨[], []⟩ ⟨hw, nofun⟩
  unfold splitLines finish
  split
  · next hp => exact List.forall_mem_append.2 ⟨hout, List.forall_mem_singleton.2 ⟨hp, Nat.le_of_lt hcur⟩⟩
  · exact hout

theorem rightPad_rune_ok (l : Str) (h : l.length ≤ 94) : ∃ p, rightPad "rune" l = some p ∧ p.length = 94 :=
  ⟨l ++ spaces (94 - l.length), by simp only [rightPad, if_true, if_neg (Nat.not_lt.2 h)],
    by rw [List.length_append, spaces, List.length_replicate, Nat.add_sub_of_le h]⟩

theorem rightPad_trimRight_spaces (unit : String) (r : Str) (hlen : r.length = 94)
    (hascii : unit = "rune" ∨ byteLen (trimRightSpaces r) = (trimRightSpaces r).length) :
    rightPad unit (trimRightSpaces r) = some r := by
  obtain ⟨k, hk⟩ := trimRightSpaces_decomp r
  generalize trimRightSpaces r = t at hk hascii ⊢
  subst hk
  have hl : t.length + k = 94 := by rwa [List.length_append, spaces, List.length_replicate] at hlen
  have hn : (if unit = "rune" then t.length else byteLen t) = t.length :=
    hascii.elim (fun h => if_pos h) (fun h => by rw [h, ite_self])
  simp only [rightPad, hn]
  rw [if_neg (Nat.not_lt.2 (hl ▸ Nat.le_add_right ..)), ← hl, Nat.add_sub_cancel_left]

end Ach
