import Ach.Model.Mask
/-!
# What `maskNumber` / `maskName` can reveal
-/
namespace Ach

/-- byte `b` of the input is shown in clear at a position whose output is `o`; an input byte that is itself `*` or a
blank never counts as shown -/
def shown (b o : UInt8) : Bool := o == b && b != star && b != blank

/-- number of input bytes shown in clear -/
def revealed : List UInt8 → List UInt8 → Nat
  | b :: bs, o :: os => (if shown b o then 1 else 0) + revealed bs os
  | _, _ => 0

/-- every output byte is `*`, a blank, or the input byte at that position -/
def onlyMasks : List UInt8 → List UInt8 → Bool
  | b :: bs, o :: os => (o == star || o == blank || o == b) && onlyMasks bs os
  | [], [] => true
  | _, _ => false

def nonBlank (bs : List UInt8) : Nat := (bs.filter (· != blank)).length

/-- some non-blank input byte is hidden behind a `*` -/
def hidesOne : List UInt8 → List UInt8 → Bool
  | b :: bs, o :: os => (b != blank && o == star) || hidesOne bs os
  | _, _ => false

theorem shown_blank (o : UInt8) : shown blank o = false := by
  unfold shown; rw [show (blank != blank) = false from rfl, Bool.and_false]

theorem shown_star (b : UInt8) : shown b star = false := by
  unfold shown
  cases h : star == b
  · rfl
  · cases eq_of_beq h; rfl

theorem nonBlank_cons (b : UInt8) (bs : List UInt8) :
    nonBlank (b :: bs) = nonBlank bs + (if b = blank then 0 else 1) := by
  unfold nonBlank
  by_cases h : b = blank
  · rw [List.filter_cons_of_neg (by rw [h]; decide), if_pos h]; rfl
  · rw [List.filter_cons_of_pos (p := (· != blank)) (bne_iff_ne.2 h), if_neg h]; rfl

theorem maskRun_length (st : Option UInt8 × Nat) (bs : List UInt8) : (maskRun st bs).length = bs.length := by
  induction bs generalizing st with
  | nil => rfl
  | cons b bs ih => exact congrArg Nat.succ (ih _)

/-! The three invariants of the loop, each by the three ways one iteration can go (`fun_cases maskStep`): a blank is
passed on as `*` or blank and not counted; while fewer than four bytes are in clear a non-blank byte is shown and
counted; after that it is replaced by `*`.  `4 - st.2` is the number of bytes that may still be shown; the subtraction
stops at 0, so nothing is asked of the counter the loop starts from. -/

theorem maskRun_onlyMasks (st : Option UInt8 × Nat) (bs : List UInt8) : onlyMasks bs (maskRun st bs) = true := by
  induction bs generalizing st with
  | nil => rfl
  | cons b bs ih =>
    simp only [maskRun, onlyMasks, ih, Bool.and_true]
    fun_cases maskStep st b
    next o =>
      simp only [o]
      split <;> simp
    next => simp
    next => simp

theorem maskRun_revealed (st : Option UInt8 × Nat) (bs : List UInt8) : revealed bs (maskRun st bs) ≤ 4 - st.2 := by
  induction bs generalizing st with
  | nil => exact Nat.zero_le _
  | cons b bs ih =>
    simp only [maskRun, revealed]
    fun_cases maskStep st b
    next hb o => simpa [hb, shown_blank] using ih (some o, st.2)
    next hlt =>
      -- one clear slot fewer is left, and `revealed` counts `b` at most once
      have := Nat.lt_of_le_of_lt (ih (some b, st.2 + 1)) (Nat.sub_succ_lt_self 4 st.2 hlt)
      dsimp only at this ⊢
      split
      · rwa [Nat.add_comm]
      · rw [Nat.zero_add]; exact Nat.le_of_lt this
    next => simpa [shown_star] using ih (some star, st.2)

/-- once four bytes are in clear, every further non-blank byte is hidden -/
theorem maskRun_hides (st : Option UInt8 × Nat) (bs : List UInt8) (h : 4 - st.2 < nonBlank bs) :
    hidesOne bs (maskRun st bs) = true := by
  induction bs generalizing st with
  | nil => exact absurd h (Nat.not_lt_zero _)
  | cons b bs ih =>
    simp only [maskRun, hidesOne, Bool.or_eq_true, Bool.and_eq_true, bne_iff_ne, beq_iff_eq]
    rw [nonBlank_cons] at h
    fun_cases maskStep st b
    next hb o => rw [if_pos hb] at h; exact Or.inr (ih (some o, st.2) h)
    next hb hlt =>
      rw [if_neg hb] at h
      exact Or.inr (ih (some b, st.2 + 1) (Nat.lt_of_lt_of_le (Nat.sub_succ_lt_self 4 st.2 hlt) (Nat.le_of_lt_succ h)))
    next hb _ => exact Or.inl ⟨hb, rfl⟩

theorem maskNumber_short (bs : List UInt8) (length : Nat) (h : length < 5) :
    maskNumberBytes bs length = List.replicate 5 star := if_pos h

/-- the middle part of the output, in loop order (index length-1 down to 2) -/
def maskedTail (bs : List UInt8) (length : Nat) : List UInt8 :=
  maskRun (none, 0) ((bs.take length).drop 2).reverse

theorem maskNumber_shape (bs : List UInt8) (length : Nat) (h5 : 5 ≤ length) :
    maskNumberBytes bs length = [star, star] ++ (maskedTail bs length).reverse := if_neg (Nat.not_lt.2 h5)

theorem maskNumber_length (bs : List UInt8) (length : Nat) (h5 : 5 ≤ length) (hl : length ≤ bs.length) :
    (maskNumberBytes bs length).length = length := by
  rw [maskNumber_shape bs length h5, List.length_append, List.length_reverse, maskedTail, maskRun_length,
    List.length_reverse, List.length_drop, List.length_take_of_le hl]
  exact Nat.add_sub_cancel' (show 2 ≤ length by omega)

/-- **maskNumber_reveals**: the first two positions are always `*`; every other output byte is `*`, a blank
or the input byte at that index; and at most four input bytes are shown in clear. -/
theorem maskNumber_reveals (bs : List UInt8) (length : Nat) (h5 : 5 ≤ length) :
    (maskNumberBytes bs length).take 2 = [star, star] ∧
    onlyMasks ((bs.take length).drop 2).reverse (maskedTail bs length) = true ∧
    revealed ((bs.take length).drop 2).reverse (maskedTail bs length) ≤ 4 :=
  ⟨by rw [maskNumber_shape bs length h5]; rfl, maskRun_onlyMasks _ _, maskRun_revealed (none, 0) _⟩

/-- **maskNumber_hides**: a value with five or more non-blank bytes after its first two positions has at least one
of them replaced by `*` — it is never shown completely.  (With ≤ 4 non-blank bytes preceded by ≥ 2 other bytes the
whole value is shown: known finding D20.) -/
theorem maskNumber_hides (bs : List UInt8) (length : Nat) (_h5 : 5 ≤ length)
    (hnb : nonBlank ((bs.take length).drop 2) ≥ 5) :
    hidesOne ((bs.take length).drop 2).reverse (maskedTail bs length) = true := by
  refine maskRun_hides (none, 0) _ ?_
  rw [nonBlank, List.filter_reverse, List.length_reverse]
  exact hnb

theorem maskWord_long (w : Str) (h : w.length > 3) :
    maskWord w = (utf8 w).take 2 ++ List.replicate (w.length - 2) star := if_pos h

theorem maskWord_short (w : Str) (h : w.length ≤ 3) : maskWord w = List.replicate w.length star :=
  if_neg (Nat.not_lt.2 h)

theorem maskWord_length (w : Str) : (maskWord w).length = w.length := by
  by_cases h : w.length > 3
  · have := length_le_utf8_length w
    rw [maskWord_long w h, List.length_append, List.length_take_of_le (by omega), List.length_replicate]
    omega
  · rw [maskWord_short w (Nat.le_of_not_lt h), List.length_replicate]

/-- a word of four or more runes is never shown completely: everything after its second byte is `*` -/
theorem maskWord_hides (w : Str) (h : w.length > 3) : (maskWord w).drop 2 = List.replicate (w.length - 2) star := by
  have := length_le_utf8_length w
  rw [maskWord_long w h]
  exact List.drop_left' (List.length_take_of_le (by omega))

end Ach
