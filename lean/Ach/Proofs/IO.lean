import Ach.Model.IO
/-!
# Lemmas for C16 (`Ach.Model.IO`)

Writer: every piece of `Write` is described once, relative to the state it starts from, by `Post` — what it submits
(`s`) and the line count it ends with (`lineNum`, from which the padding is computed) — and the pieces are composed by
`Step.seq`.  Besides the count, `Post` says three things at once:
* `sent` (`Sent`): the fault budget of the underlying writer is conserved, and *if the sticky error is still nil*
  everything submitted so far is delivered or buffered, in order.  It does not care whether an error result is checked or
  dropped: after a failure the sticky error is set and the clause is vacuous, which is exactly why the final `Flush` is
  enough;
* `reported`: an error result implies that the sticky error is set;
* `quiet`: as long as everything fits the buffer with 94 bytes to spare, nothing reaches the underlying writer at all.

Reader: `Plan.read` and `CRdr.read` either make progress or report the final error (`read_spec`); `io.ReadAtLeast`'s
loop and the scanner's loop are closed forms over that (`readFull_spec`, `scanAll_spec`), and `readFile_eq` puts them
together: the verdict of `NewReader(src).Read()` for every fault plan.
-/
namespace Ach.IO
variable {α : Type}

theorem Under.write_budget (u : Under α) (p : List α) :
    (u.write p).1.got.length + (u.write p).1.room = u.got.length + u.room := by
  unfold Under.write
  split <;> simp only [List.length_append, List.length_take] <;> omega

theorem Under.write_got (u : Under α) (p : List α) :
    (u.write p).1.got = u.got ++ p.take (u.write p).2.1 := by
  unfold Under.write
  split <;> simp

structure Sent (b b' : BW α) (s : List α) : Prop where
  cap : b'.cap = b.cap
  budget : b'.wr.got.length + b'.wr.room = b.wr.got.length + b.wr.room
  ok : b'.err = none → b.err = none ∧ b'.wr.got ++ b'.buf = b.wr.got ++ b.buf ++ s

theorem Sent.refl {b : BW α} : Sent b b [] := ⟨rfl, rfl, fun he => ⟨he, (List.append_nil _).symm⟩⟩

theorem Sent.buffered (b : BW α) (s : List α) : Sent b { b with buf := b.buf ++ s } s :=
  ⟨rfl, rfl, fun he => ⟨he, (List.append_assoc ..).symm⟩⟩

theorem Sent.trans {b b' b'' : BW α} {s s' : List α} (h : Sent b b' s) (h' : Sent b' b'' s') : Sent b b'' (s ++ s') where
  cap := h'.cap.trans h.cap
  budget := h'.budget.trans h.budget
  ok he := ⟨(h.ok (h'.ok he).1).1, by rw [(h'.ok he).2, (h.ok (h'.ok he).1).2, List.append_assoc]⟩

theorem Sent.of_err {b b' : BW α} {s s' : List α} (h : Sent b b' s) (he : b'.err ≠ none) : Sent b b' s' :=
  { h with ok := fun hn => absurd hn he }

theorem flush_spec (b : BW α) : Sent b b.flush.1 [] ∧ b.flush.2 = b.flush.1.err ∧
    (b.flush.1.err = none → b.flush.1.buf = []) ∧ b.flush.1.buf.length ≤ b.buf.length := by
  have hgot := Under.write_got b.wr b.buf
  have hbud := Under.write_budget b.wr b.buf
  unfold BW.flush
  split
  · next e he => exact ⟨⟨rfl, rfl, fun h => by simp [he] at h⟩, he.symm, fun h => by simp [he] at h, Nat.le_refl _⟩
  next he =>
  split
  · next hb =>
    exact ⟨⟨rfl, rfl, fun _ => ⟨he, by simp⟩⟩, he.symm, fun _ => List.eq_nil_of_length_eq_zero hb, Nat.le_refl _⟩
  generalize b.wr.write b.buf = r at hgot hbud
  dsimp only
  split
  · -- an error, or a short write made into one: the sticky error is set, only the budget is left to account for
    exact ⟨⟨rfl, hbud, fun h => by simp at h⟩, rfl, fun h => by simp at h, by simp⟩
  · next hx =>
    have hn : b.buf.length ≤ r.2.1 := Nat.le_of_not_lt fun hlt => by cases hr : r.2.2 <;> simp [hlt, hr] at hx
    exact ⟨⟨rfl, hbud, fun _ => ⟨he, by simp [hgot, List.take_of_length_le hn]⟩⟩, he.symm, fun _ => rfl,
      Nat.zero_le _⟩

/-- the `WriteString` loop, with the rest of `s` that it has not copied yet put back -/
theorem wsLoop_sent : ∀ (fuel : Nat) (b : BW α) (s : List α),
    Sent b { (b.wsLoop fuel s).1 with buf := (b.wsLoop fuel s).1.buf ++ (b.wsLoop fuel s).2 } s := by
  intro fuel
  induction fuel with
  | zero => exact Sent.buffered
  | succ fuel ih =>
    intro b s
    unfold BW.wsLoop
    split
    · simpa using ((Sent.buffered b (s.take b.avail)).trans (flush_spec _).1).trans (ih _ (s.drop b.avail))
    · exact Sent.buffered b s

theorem writeString_spec (b : BW α) (s : List α) :
    Sent b (b.writeString s).1 s ∧ (b.writeString s).2 = (b.writeString s).1.err := by
  have h := wsLoop_sent (s.length + 1) b s
  unfold BW.writeString
  dsimp only
  split
  · next e he => exact ⟨⟨h.cap, h.budget, fun hn => by simp [he] at hn⟩, he.symm⟩
  · next he => exact ⟨h, he.symm⟩

theorem writeString_fits (b : BW α) (s : List α) (he : b.err = none) (hf : s.length ≤ b.avail) :
    b.writeString s = ({ b with buf := b.buf ++ s }, none) := by
  have : b.wsLoop (s.length + 1) s = (b, s) := by
    simp [BW.wsLoop, Nat.not_lt.mpr hf]
  simp [BW.writeString, this, he]

def BW.Wf (b : BW α) : Prop := 0 < b.cap ∧ b.buf.length ≤ b.cap

theorem flush_wf (b : BW α) (h : b.Wf) : b.flush.1.Wf :=
  have ⟨hs, _, _, hl⟩ := flush_spec b
  ⟨hs.cap ▸ h.1, hs.cap ▸ Nat.le_trans hl h.2⟩

/-- with enough fuel the loop stops because its condition is false.  A round that starts with an empty buffer copies
`cap > 0` bytes, and every round but the first starts with an empty buffer (or a sticky error). -/
theorem wsLoop_exit : ∀ (fuel : Nat) (b : BW α) (s : List α), b.Wf →
    (b.err = none → s.length + (if b.buf.length = 0 then 0 else 1) ≤ fuel) →
    (b.wsLoop fuel s).1.Wf ∧
    ((b.wsLoop fuel s).1.err = none → (b.wsLoop fuel s).2.length ≤ (b.wsLoop fuel s).1.avail) := by
  intro fuel
  induction fuel with
  | zero =>
    intro b s h hf
    refine ⟨h, fun he => ?_⟩
    have := hf he
    show s.length ≤ _
    omega
  | succ fuel ih =>
    intro b s ⟨h0, hb⟩ hf
    unfold BW.wsLoop
    split
    · next hc =>
      simp at hc
      have hf := hf hc.2
      unfold BW.avail at hc ⊢
      refine ih _ _ (flush_wf _ ⟨h0, ?_⟩) fun hn => ?_
      · simp only [List.length_append, List.length_take]; omega
      · simp only [(flush_spec _).2.2.1 hn, List.length_nil, if_true, List.length_drop]
        split at hf <;> omega
    · next hc =>
      refine ⟨⟨h0, hb⟩, fun he => ?_⟩
      simpa [show b.err = none from he] using hc

theorem writeString_wf (b : BW α) (s : List α) (h : b.Wf) : (b.writeString s).1.Wf := by
  have hl := wsLoop_exit (s.length + 1) b s h (fun _ => by split <;> omega)
  unfold BW.writeString
  dsimp only
  split
  · exact hl.1
  · next he =>
    have h1 := hl.2 he
    have h2 := hl.1.2
    unfold BW.avail at h1
    exact ⟨hl.1.1, by simp only [List.length_append]; omega⟩

/-- 94 is the room `writeLine` wants to see before it returns without a `Flush` -/
structure Post (b : BW α) (r : Res α) (s : List α) (n : Nat) : Prop where
  sent : Sent b r.1.bw s
  lineNum : r.1.bw.err = none → r.1.lineNum = n
  reported : r.2.isSome → r.1.bw.err.isSome
  quiet : b.err = none → b.buf.length + s.length + 94 ≤ b.cap →
    r.2 = none ∧ r.1.bw.err = none ∧ r.1.bw.wr = b.wr ∧ r.1.bw.buf = b.buf ++ s

/-- started at line count `n` (known only while there is no sticky error), `c` submits `s` and ends at `n'` -/
def Step (c : W α → Res α) (n : Nat) (s : List α) (n' : Nat) : Prop :=
  ∀ w, (w.bw.err = none → w.lineNum = n) → Post w.bw (c w) s n'

theorem Post.of_err {b : BW α} {r : Res α} {s s' : List α} {n n' : Nat} (h : Post b r s n) (he : b.err ≠ none) :
    Post b r s' n' :=
  have he' : r.1.bw.err ≠ none := fun hn => he (h.sent.ok hn).1
  { sent := h.sent.of_err he', lineNum := fun hn => absurd hn he', reported := h.reported,
    quiet := fun hn => absurd hn he }

theorem Step.seq {chk : Bool} {c1 c2 : W α → Res α} {n n1 n2 : Nat} {s1 s2 : List α}
    (h1 : Step c1 n s1 n1) (h2 : Step c2 n1 s2 n2) : Step (fun w => andThen chk (c1 w) c2) n (s1 ++ s2) n2 := by
  intro w hn
  have p1 := h1 w hn
  show Post w.bw (andThen chk (c1 w) c2) _ _
  unfold andThen
  split
  · -- early `return err`: the sticky error is set, so nothing is claimed about what `c2` would have submitted
    next hc =>
    have he : (c1 w).1.bw.err.isSome := p1.reported (by simp at hc; exact hc.2)
    have he' : (c1 w).1.bw.err ≠ none := fun h => by simp [h] at he
    exact { sent := p1.sent.of_err he', lineNum := fun h => absurd h he', reported := fun _ => he,
            quiet := fun h0 hf => absurd (p1.quiet h0 (by simp at hf; omega)).2.1 he' }
  · have p2 := h2 (c1 w).1 p1.lineNum
    refine { sent := p1.sent.trans p2.sent, lineNum := p2.lineNum, reported := p2.reported, quiet := fun h0 hf => ?_ }
    simp only [List.length_append] at hf
    obtain ⟨_, e1, u1, b1⟩ := p1.quiet h0 (by omega)
    obtain ⟨r2, e2, u2, b2⟩ := p2.quiet e1 (by rw [b1, p1.sent.cap, List.length_append]; omega)
    exact ⟨r2, e2, u2.trans u1, by rw [b2, b1, List.append_assoc]⟩

theorem step_skip (n : Nat) : Step (fun w : W α => (w, none)) n [] n := fun w hn =>
  { sent := .refl, lineNum := hn, reported := nofun, quiet := fun h _ => ⟨rfl, h, rfl, by simp⟩ }

theorem step_ws (s : List α) (n : Nat) : Step (ws s) n s n := by
  intro w hn
  have h := writeString_spec w.bw s
  refine { sent := h.1, lineNum := fun he => hn (h.1.ok he).1, reported := fun hs => h.2 ▸ hs,
           quiet := fun he hf => ?_ }
  simp [ws, writeString_fits w.bw s he (by unfold BW.avail; omega), he]

theorem step_lineDone (n : Nat) : Step (lineDone : W α → Res α) n [] (n + 1) := by
  intro w hn
  unfold lineDone
  split
  · next ha =>
    obtain ⟨hs, hr, _⟩ := flush_spec w.bw
    exact { sent := hs, lineNum := fun he => congrArg (· + 1) (hn (hs.ok he).1), reported := fun h => hr ▸ h,
            quiet := fun _ hf => by unfold BW.avail at ha; omega }
  · exact { sent := .refl, lineNum := fun he => congrArg (· + 1) (hn he), reported := nofun,
            quiet := fun h _ => ⟨rfl, h, rfl, by simp⟩ }

theorem step_writeLine (p : Policy) (cfg : Cfg α) (l : List α) (n : Nat) :
    Step (writeLine p cfg l) n (emitLine cfg l) (n + countLine l) := by
  intro w hn
  unfold writeLine emitLine countLine
  split
  · exact step_skip n w hn
  · simpa using ((step_ws l n).seq ((step_ws cfg.ending n).seq (step_lineDone n))) w hn

theorem step_writeLines (p : Policy) (cfg : Cfg α) : ∀ (ls : List (List α)) (n : Nat),
    Step (writeLines p cfg ls) n (emitLines cfg ls) (n + countLines ls) := by
  intro ls
  induction ls with
  | nil => exact step_skip
  | cons l ls ih =>
    intro n w hn
    simpa [writeLines, emitLines, countLines, Nat.add_assoc] using
      (step_writeLine p cfg l n).seq (chk := p.checkCalls) (ih _) w hn

theorem step_padLoop (p : Policy) (cfg : Cfg α) (n : Nat) : ∀ m : Nat, Step (padLoop p cfg m) n (padding cfg m) n := by
  intro m
  induction m with
  | zero => exact step_skip n
  | succ m ih =>
    intro w hn
    simpa [padLoop, padding, List.replicate_succ] using
      (step_ws cfg.padLine n).seq (chk := p.checkPadWS) ((step_ws cfg.ending n).seq (chk := p.checkPadWS) ih) w hn

/-- the number of padding lines is read off `w.lineNum`, which is `n` only while there is no sticky error;
with one, nothing is claimed anyway -/
theorem step_padAll (p : Policy) (cfg : Cfg α) (n : Nat) :
    Step (fun w => padLoop p cfg (padCount w.lineNum) w) n (padding cfg (padCount n)) n := by
  intro w hn
  have h := step_padLoop p cfg n (padCount w.lineNum) w hn
  cases he : w.bw.err with
  | none => obtain rfl := hn he; exact h
  | some e => exact h.of_err (by simp [he])

theorem writeBody_post (p : Policy) (cfg : Cfg α) (f : WFile α) (w : W α) :
    Post w.bw (writeBody p cfg f w) (render cfg f) (countLines f.lines) := by
  simpa [writeBody, render, WFile.lines, emitLines, countLines, Nat.add_assoc] using
    ((step_writeLine p cfg f.header 0).seq (chk := p.checkCalls) <|
      (step_writeLines p cfg f.batches _).seq (chk := p.checkCalls) <|
      (step_writeLines p cfg f.iat _).seq (chk := p.checkCalls) <|
      (step_writeLine p cfg f.control _).seq (chk := p.checkCalls) (step_padAll p cfg _))
      { w with lineNum := 0 } (fun _ => rfl)

/-- **no loss, no reordering, no duplication**: if `Write` (ending in `return w.w.Flush()`) returns nil, the underlying
writer has received what it had, then what was buffered, then exactly the rendering of the file; nothing stays
buffered. -/
theorem write_ok (p : Policy) (hp : p.returnsFlush = true) (cfg : Cfg α) (f : WFile α) (w : W α)
    (h : (write p cfg f w).2 = none) :
    (write p cfg f w).1.bw.wr.got = w.bw.wr.got ++ w.bw.buf ++ render cfg f ∧ (write p cfg f w).1.bw.buf = [] ∧
    (write p cfg f w).1.bw.err = none ∧
    (write p cfg f w).1.bw.wr.got.length + (write p cfg f w).1.bw.wr.room = w.bw.wr.got.length + w.bw.wr.room := by
  obtain ⟨hfs, hfr, hfb, _⟩ := flush_spec (writeBody p cfg f w).1.bw
  have hs := (writeBody_post p cfg f w).sent.trans hfs
  revert h
  simp only [write, andThen, hp, if_true, wflush]
  split
  · next hc => intro h; simp [h] at hc
  · intro h
    have he := hfr ▸ h
    exact ⟨by simpa [hfb he] using (hs.ok he).2, hfb he, he, hs.budget⟩

/-- **every failure is reported**: if the underlying writer cannot take everything that is buffered plus the file,
`Write` returns an error -/
theorem write_fails (p : Policy) (hp : p.returnsFlush = true) (cfg : Cfg α) (f : WFile α) (w : W α)
    (hk : w.bw.wr.room < w.bw.buf.length + (render cfg f).length) : (write p cfg f w).2 ≠ none := by
  intro h
  have hw := write_ok p hp cfg f w h
  have hl := congrArg List.length hw.1
  simp only [List.length_append] at hl
  omega

theorem write_ret_flush (p : Policy) (hp : p.returnsFlush = true) (cfg : Cfg α) (f : WFile α) (w : W α)
    (h : (writeBody p cfg f w).2 = none) : (write p cfg f w).2 = (writeBody p cfg f w).1.bw.flush.2 := by
  simp [write, andThen, h, hp, wflush]

theorem Plan.read_spec (p : Plan) (pos n : Nat) (hn : 0 < n) :
    ∃ m, m ≤ n ∧ m ≤ p.limit - pos ∧ (pos < p.limit → 0 < m) ∧
    p.read pos n = (pos + m, m, if pos < p.limit then none else some p.endErr) := by
  unfold Plan.read
  split
  · next h =>
    have hc : 0 < (if p.chunk = 0 then n else min n p.chunk) ∧ (if p.chunk = 0 then n else min n p.chunk) ≤ n := by
      split
      · exact ⟨hn, Nat.le_refl n⟩
      · next hc => exact ⟨Nat.lt_min.2 ⟨hn, Nat.pos_of_ne_zero hc⟩, Nat.min_le_left ..⟩
    exact ⟨_, Nat.le_trans (Nat.min_le_left ..) hc.2, Nat.min_le_right ..,
      fun _ => Nat.lt_min.2 ⟨hc.1, Nat.sub_pos_of_lt h⟩, rfl⟩
  · next h => exact ⟨0, Nat.zero_le _, Nat.zero_le _, fun h' => absurd h' h, rfl⟩

/-- `io.ReadAtLeast`'s loop over the fault plan: `d` is what the loop is still to read — what is asked for, or what is
left before the failure if that is less -/
theorem readLoop_spec (p : Plan) : ∀ (fuel pos n mn d : Nat), n + d ≤ mn → pos + d ≤ p.limit →
    (n + d = mn ∨ pos + d = p.limit) → d < fuel →
    readLoop p fuel pos n mn = (pos + d, n + d, if n + d = mn then none else some p.endErr) := by
  intro fuel
  induction fuel with
  | zero => intro pos n mn d _ _ _ h; exact absurd h (Nat.not_lt_zero _)
  | succ fuel ih =>
    intro pos n mn d h1 h2 h3 hf
    unfold readLoop
    split
    · next hlt =>
      obtain ⟨m, hmn, hml, hm0, hr⟩ := p.read_spec pos (mn - n) (Nat.sub_pos_of_lt hlt)
      rw [hr]
      dsimp only
      by_cases hpl : pos < p.limit
      · have := hm0 hpl
        obtain ⟨d, rfl⟩ := Nat.exists_eq_add_of_le (show m ≤ d by omega)
        simp only [hpl, if_true, Nat.add_assoc, ih (pos + m) (n + m) mn d (by rwa [Nat.add_assoc])
          (by rwa [Nat.add_assoc]) (by rwa [Nat.add_assoc, Nat.add_assoc]) (by omega)]
      · obtain rfl : d = 0 := by omega
        obtain rfl : m = 0 := by omega
        simp only [hpl, if_false, Nat.add_zero, if_neg (Nat.ne_of_lt hlt)]
    · obtain rfl : d = 0 := by omega
      obtain rfl : n = mn := by omega
      simp

theorem readFull_spec (p : Plan) (size : Nat) :
    readFull p size = if size ≤ p.limit then (size, size, none)
      else (p.limit, p.limit, some (if 0 < p.limit ∧ p.endErr = .eof then .unexpectedEOF else p.endErr)) := by
  unfold readFull
  by_cases h : size ≤ p.limit
  · rw [readLoop_spec p _ 0 0 size size (by omega) (by omega) (.inl (Nat.zero_add _)) (Nat.lt_succ_self _)]
    simp [h]
  · have hl : p.limit < size := Nat.lt_of_not_le h
    rw [readLoop_spec p _ 0 0 size p.limit (by omega) (by omega) (.inr (Nat.zero_add _)) (by omega)]
    simp only [h, if_false, Nat.zero_add, Nat.ne_of_lt hl]
    by_cases hc : 0 < p.limit ∧ p.endErr = .eof <;> simp [hc]

/-- bytes still to come from `r` (the preview, then the source up to its failure), and the error that follows them -/
def CRdr.rest (p : Plan) (r : CRdr) : Nat := r.preview + match r.src with | some pos => p.limit - pos | none => 0
def CRdr.endErr (p : Plan) (r : CRdr) : RErr := match r.src with | some _ => p.endErr | none => .eof

theorem CRdr.read_spec (p : Plan) (r : CRdr) (n : Nat) (hn : 0 < n) : ∃ m, (0 < r.rest p → 0 < m) ∧
    (r.read p n).1.rest p + m = r.rest p ∧ (r.read p n).1.endErr p = r.endErr p ∧
    (r.read p n).2 = (m, if 0 < r.rest p then none else some (r.endErr p)) := by
  obtain ⟨pv, src⟩ := r
  by_cases h : 0 < pv
  · refine ⟨min n pv, ?_⟩
    simp only [CRdr.read, CRdr.rest, CRdr.endErr, gt_iff_lt, h, if_true, Prod.mk.injEq, true_and]
    exact ⟨fun _ => Nat.lt_min.2 ⟨hn, h⟩, by rw [Nat.add_right_comm, Nat.sub_add_cancel (Nat.min_le_right ..)],
      (if_pos (Nat.add_pos_left h _)).symm⟩
  · obtain rfl : pv = 0 := Nat.eq_zero_of_not_pos h
    cases src with
    | none => exact ⟨0, fun h => h, rfl, rfl, rfl⟩
    | some pos =>
      obtain ⟨m, _, hml, hm0, hr⟩ := p.read_spec pos n hn
      refine ⟨m, ?_⟩
      simp only [CRdr.read, CRdr.rest, CRdr.endErr, hr, gt_iff_lt, Nat.lt_irrefl, if_false, Nat.zero_add,
        Nat.sub_pos_iff_lt, and_true]
      exact ⟨hm0, by rw [Nat.sub_add_eq, Nat.sub_add_cancel hml]⟩

theorem scanAll_spec (p : Plan) (bufSz : Nat) (hb : 0 < bufSz) : ∀ (fuel : Nat) (r : CRdr) (seen : Nat),
    r.rest p < fuel →
    scanAll p bufSz fuel r seen = (seen + r.rest p, if r.endErr p = .eof then none else some (r.endErr p)) := by
  intro fuel
  induction fuel with
  | zero => intro r seen h; omega
  | succ fuel ih =>
    intro r seen hf
    obtain ⟨m, hm0, hrest, herr, hr⟩ := r.read_spec p bufSz hb
    unfold scanAll
    rw [show (r.read p bufSz).2.2 = _ from congrArg Prod.snd hr, show (r.read p bufSz).2.1 = m from congrArg Prod.fst hr]
    by_cases h0 : 0 < r.rest p
    · have := hm0 h0
      simp only [h0, if_true]
      rw [ih _ _ (by omega), herr, Nat.add_assoc, Nat.add_comm m, hrest]
    · have hz : r.rest p = 0 := Nat.eq_zero_of_not_pos h0
      obtain rfl : m = 0 := by omega
      simp only [hz, Nat.lt_irrefl, if_false, Nat.add_zero]

theorem read_scanner (p : Plan) (r : CRdr) (errs : List RErr) (h : r.rest p ≤ p.total) :
    read p true false ⟨some r, errs⟩ =
      if r.endErr p = .eof then .ok (r.rest p) else .errScan (r.endErr p) (r.rest p) := by
  unfold read
  simp only [scanAll_spec p 4096 (by omega) (p.total + 2) r 0 (by omega), Nat.zero_add]
  by_cases he : r.endErr p = .eof <;> simp [he]

theorem read_preview {p : Plan} {n : Nat} {errs : List RErr} (h : n ≤ p.total) :
    read p true false ⟨some ⟨n, none⟩, errs⟩ = .ok n :=
  (read_scanner p ⟨n, none⟩ errs h).trans (if_pos rfl)

/-- complete description of the I/O verdict of `NewReader(src).Read()` (with the `scanner.Err()` check) -/
theorem readFile_eq (p : Plan) :
    readFile true p =
      if sniffLen ≤ p.limit then (if p.endErr = .eof then .ok p.limit else .errScan p.endErr p.limit)
      else (if p.endErr = .other then .errNilScanner else .ok p.limit) := by
  have hlt : p.limit ≤ p.total := Nat.min_le_right ..
  unfold readFile newReader charsetNewReader
  rw [readFull_spec]
  by_cases h : sniffLen ≤ p.limit
  · -- the pre-read succeeds: the scanner replays it and goes on with the source
    simp only [h, if_true]
    rw [read_scanner p ⟨sniffLen, some sniffLen⟩ [] (by simp only [CRdr.rest]; omega)]
    simp [CRdr.rest, CRdr.endErr, Nat.add_sub_cancel' h]
  · -- the pre-read hits the failure: the preview is taken for the whole input, unless the error is a foreign one
    simp only [h, if_false]
    cases he : p.endErr with
    | other => simp [read]
    | unexpectedEOF =>
      simp only [reduceCtorEq, and_false, if_false]
      exact read_preview hlt
    | eof =>
      by_cases h0 : 0 < p.limit
      · simp only [h0, and_self, if_true]
        exact read_preview hlt
      · -- `io.EOF` before the first byte: `NewReaderWithContentType` scans an empty reader in its place
        simp only [h0, false_and, if_false, true_or, if_true]
        rw [read_preview (Nat.zero_le _), if_neg nofun, Nat.eq_zero_of_not_pos h0]

theorem readFile_failed (p : Plan) (hk : p.k ≤ p.total) :
    readFile true p =
      if sniffLen ≤ p.k then (if p.e = .eof then .ok p.k else .errScan p.e p.k)
      else (if p.e = .other then .errNilScanner else .ok p.k) := by
  rw [readFile_eq, show p.limit = p.k from Nat.min_eq_left hk, show p.endErr = p.e from if_pos hk]

theorem readFile_complete (p : Plan) (hk : p.total < p.k) : readFile true p = .ok p.total := by
  rw [readFile_eq, show p.limit = p.total from Nat.min_eq_right (Nat.le_of_lt hk),
    show p.endErr = .eof from if_neg (Nat.not_le.mpr hk)]
  split <;> rfl

end Ach.IO
