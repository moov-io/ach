import Ach.Model.Repo
/-!
# Proofs about the repository model

`micro_spec`: the micro-steps of one body, run on a memory that agrees with what they observed, amount to `specStep`.
With the lock invariant (the RW lock against an abstract map of holders, `Lock.Tracks`) it gives the absence of
conflicting accesses, the refinement invariant `SimInv` and the step-wise simulation `step_sim`, and from these the
bookkeeping of calls / linearization points / returns along a run (`Hist`) with its replay on the specification.
-/
namespace Ach.Repo

@[simp] theorem get_put (i j : Nat) (v : FileV) (m : Spec) :
    get j (put i v m) = if j = i then some v else get j m := by
  fun_induction put i v m <;> grind [get]

@[simp] theorem get_del (i j : Nat) (m : Spec) : get j (del i m) = if j = i then none else get j m := by
  induction m with
  | nil => simp [del, get]
  | cons p m ih => simp only [del, List.filter_cons] at ih ⊢; grind [get]

theorem mem_of_get {m : Spec} {i : Nat} {f : FileV} (h : get i m = some f) : (i, f) ∈ m := by
  fun_induction get i m <;> grind

theorem get_sweepOut (old : List Nat) (j : Nat) (m : Spec) (f : FileV) :
    get j (sweepOut old m) = some f → old.contains f.tok = false := fun h => by
  simpa using (List.mem_filter.1 (mem_of_get h)).2

def Sorted (m : Spec) : Prop := m.Pairwise (fun a b => a.1 < b.1)

theorem mem_put {i : Nat} {v : FileV} {m : Spec} {p : Nat × FileV} (h : p ∈ put i v m) : p = (i, v) ∨ p ∈ m := by
  fun_induction put i v m <;> grind

theorem put_sorted {i : Nat} {v : FileV} {m : Spec} (h : Sorted m) : Sorted (put i v m) := by
  unfold Sorted at *
  fun_induction put i v m <;> grind [→ mem_put, List.pairwise_cons]

theorem mem_iff_get {m : Spec} (h : Sorted m) (i : Nat) (f : FileV) : (i, f) ∈ m ↔ get i m = some f := by
  refine ⟨fun hm => ?_, mem_of_get⟩
  unfold Sorted at h
  induction m <;> grind [get, List.pairwise_cons]

/-- states the sequential clauses speak about: unique (sorted) ids, no duplicate batch id inside a file -/
def WF (m : Spec) : Prop := Sorted m ∧ ∀ i f, get i m = some f → f.batches.Nodup

theorem wf_nil : WF [] := ⟨List.Pairwise.nil, by simp [get]⟩

theorem WF.put {s : Spec} (h : WF s) (i : Nat) {v : FileV} (hv : v.batches.Nodup) : WF (put i v s) :=
  ⟨put_sorted h.1, fun j f hj => by
    rw [get_put] at hj; split at hj
    · cases hj; exact hv
    · exact h.2 j f hj⟩

theorem WF.filter {s : Spec} (h : WF s) (q : Nat × FileV → Bool) : WF (s.filter q) :=
  ⟨List.Pairwise.filter q h.1, fun j f hj => h.2 j f ((mem_iff_get h.1 j f).1 (List.mem_filter.1 (mem_of_get hj)).1)⟩

theorem lastIdx_none {b : Nat} {l : List Nat} : lastIdx b l = none ↔ b ∉ l := by
  fun_induction lastIdx b l <;> grind

theorem lastIdx_get {b : Nat} {l : List Nat} {i : Nat} (h : lastIdx b l = some i) : l[i]? = some b := by
  fun_induction lastIdx b l generalizing i <;> cases h
  · rename_i hj ih; exact ih hj
  · rfl

theorem not_mem_eraseIdx {b : Nat} {l : List Nat} {i : Nat} (hn : l.Nodup) (h : lastIdx b l = some i) :
    b ∉ l.eraseIdx i := by
  rw [List.mem_eraseIdx_iff_getElem?]
  rintro ⟨j, hj, hb⟩
  exact hj ((List.getElem?_inj (List.getElem?_eq_some_iff.1 hb).1 hn).1 (hb.trans (lastIdx_get h).symm))

theorem mem_eraseIdx_other {b c : Nat} {l : List Nat} {i : Nat} (h : lastIdx c l = some i) (hne : b ≠ c) :
    b ∈ l.eraseIdx i ↔ b ∈ l := by
  refine ⟨List.mem_of_mem_eraseIdx, fun hb => ?_⟩
  obtain ⟨j, hj⟩ := List.mem_iff_getElem?.1 hb
  refine List.mem_eraseIdx_iff_getElem?.2 ⟨j, fun e => hne ?_, hj⟩
  rw [e, lastIdx_get h] at hj
  exact (Option.some.inj hj).symm

theorem specStep_wf {s : Spec} (op : Op) (h : WF s) : WF (specStep s op).1 := by
  fun_cases specStep s op <;> try exact h
  -- left: the branches that change the state, in the order of the definition
  · exact h.put _ List.nodup_nil
  · exact h.filter _
  · rename_i f hf hb
    exact h.put _ (by simpa [List.nodup_append] using ⟨h.2 _ f hf, fun a ha e => hb (e ▸ ha)⟩)
  · rename_i f hf _ _
    exact h.put _ ((h.2 _ f hf).sublist (List.eraseIdx_sublist ..))
  · exact h.filter _

/-- the observations `loc` of `op` are true of memory `m` (and `loc` is a point the body of `op` passes through) -/
def LocOk : Op → Loc → Spec → Prop
  | _, .start, _ => True
  | .storeFile id _, .absent, m => get id m = none
  | .findAllFiles, .len _, _ => True
  | .storeBatch id _, .present, m => (get id m).isSome
  | .storeBatch id b, .clear, m => (get id m).isSome ∧ b ∉ batchesOf id m
  | .findBatch id _, .present, m => (get id m).isSome
  | .findAllBatches id, .present, m => (get id m).isSome
  | .deleteBatch id _, .present, m => (get id m).isSome
  | .deleteBatch id b, .at i, m => (get id m).isSome ∧ lastIdx b (batchesOf id m) = some i
  | _, _, _ => False

theorem locOk_start (op : Op) (m : Spec) : LocOk op .start m := by cases op <;> trivial

theorem micro_read {op : Op} {loc : Loc} (m : Spec) (h : isWrite op loc = false) : (micro op loc m).1 = m := by
  fun_cases micro op loc m <;> simp [isWrite, *] at h ⊢

theorem isWrite_method {op : Op} {loc : Loc} (h : isWrite op loc = true) : op.method.writes = true := by
  revert h
  fun_cases isWrite op loc <;> simp [Op.method, Method.writes]

def StepOk (op : Op) (m : Spec) : Spec × (Loc ⊕ Res) → Prop
  | (m', .inl loc') => m' = m ∧ LocOk op loc' m
  | (m', .inr r) => (m', r) = specStep m op

/-- on a memory that agrees with its observations the next access of a body either only reads and extends the
observations truthfully, or completes the call with exactly the effect and result of the atomic `specStep` on the
*current* memory.  Checked branch by branch of `specStep` and point by point of the body: the observations contradict
the branch, or `micro` evaluates to what the branch returns. -/
theorem micro_spec {op : Op} {loc : Loc} {m : Spec} (h : LocOk op loc m) : StepOk op m (micro op loc m) := by
  unfold StepOk -- brings `specStep m op` into the goal, where `fun_cases` replaces it by the value of each branch
  fun_cases specStep m op <;> cases loc <;> simp only [LocOk] at h <;>
    simp_all [LocOk, micro, batchesOf, modBatches]

/-- inside its critical section: past the acquire, before the release -/
def Thread.holds (th : Thread) : Bool := match th.pc with
  | .inside _ | .leaving _ => true
  | _ => false

def Thread.kind (kind : Method → LockKind) (th : Thread) : LockKind := match th.prog with
  | op :: _ => kind op.method
  | [] => .none

structure LockInv (kind : Method → LockKind) (s : State) : Prop where
  writer : ∀ t, s.lock.writer = some t ↔ ((s.threads t).holds = true ∧ (s.threads t).kind kind = .write)
  readers : ∀ t, t ∈ s.lock.readers ↔ ((s.threads t).holds = true ∧ (s.threads t).kind kind = .read)
  nodup : s.lock.readers.Nodup
  excl : s.lock.writer ≠ none → s.lock.readers = []

@[simp] theorem setT_threads (s : State) (t u : Nat) (th : Thread) :
    (s.setT t th).threads u = if u = t then th else s.threads u := rfl
@[simp] theorem setT_lock (s : State) (t : Nat) (th : Thread) : (s.setT t th).lock = s.lock := rfl
@[simp] theorem setT_mem (s : State) (t : Nat) (th : Thread) : (s.setT t th).mem = s.mem := rfl

theorem step_other {kind : Method → LockKind} {s s' : State} {t u : Nat} {a : Act}
    (hs : Step kind s (t, a) s') (hu : u ≠ t) : s'.threads u = s.threads u := by
  cases hs <;> simp [hu]

/-- lock `l` records exactly the holders `h`: the kind under which each thread holds it, `none` for no hold -/
structure Lock.Tracks (l : Lock) (h : Nat → LockKind) : Prop where
  writer : ∀ t, l.writer = some t ↔ h t = .write
  readers : ∀ t, t ∈ l.readers ↔ h t = .read
  nodup : l.readers.Nodup
  excl : l.writer ≠ none → l.readers = []

namespace Lock.Tracks
variable {l l' : Lock} {h h' : Nat → LockKind} {k : LockKind} {t : Nat}

theorem frame (hl : l.Tracks h) (ht : h' t = h t) (ho : ∀ u, u ≠ t → h' u = h u) : l.Tracks h' := by
  have : h' = h := funext fun u => by
    by_cases e : u = t
    · rw [e, ht]
    · exact ho u e
  exact this ▸ hl

/-- the contract of `Lock`/`RLock`: a thread that holds nothing and gets the lock as `k` holds it as `k` -/
theorem acquire (hl : l.Tracks h) (ha : l.acquire k t = some l') (ht : h t = .none) (ht' : h' t = k)
    (ho : ∀ u, u ≠ t → h' u = h u) : l'.Tracks h' := by
  have htW : l.writer ≠ some t := fun e => by rw [(hl.writer t).1 e] at ht; cases ht
  have htR : t ∉ l.readers := fun e => by rw [(hl.readers t).1 e] at ht; cases ht
  cases k <;> simp only [Lock.acquire] at ha
  -- in each block here and in `release`: the writer clause at `t` and elsewhere, then the readers clause likewise
  · cases ha; exact hl.frame (ht'.trans ht.symm) ho
  · split at ha <;> cases ha
    rename_i hw
    refine ⟨fun u => ?_, fun u => ?_, List.nodup_cons.2 ⟨htR, hl.nodup⟩, fun hx => absurd hw hx⟩ <;>
      by_cases e : u = t
    · subst e; simp [htW, ht']
    · exact ho u e ▸ hl.writer u
    · subst e; simp [ht']
    · simp [e, ho u e, hl.readers u]
  · split at ha <;> cases ha
    rename_i hf
    refine ⟨fun u => ?_, fun u => ?_, hl.nodup, fun _ => hf.2⟩ <;> by_cases e : u = t
    · subst e; simp [ht']
    · simp [Ne.symm e, ho u e, ← hl.writer u, hf.1]
    · subst e; simp [htR, ht']
    · exact ho u e ▸ hl.readers u

/-- the contract of `Unlock`/`RUnlock` -/
theorem release (hl : l.Tracks h) (ht : h t = k) (ht' : h' t = .none) (ho : ∀ u, u ≠ t → h' u = h u) :
    (l.release k t).Tracks h' := by
  cases k <;> simp only [Lock.release]
  · exact hl.frame (ht'.trans ht.symm) ho
  · have htW : l.writer ≠ some t := fun e => by rw [(hl.writer t).1 e] at ht; cases ht
    refine ⟨fun u => ?_, fun u => ?_, hl.nodup.erase t, fun hx => by simp [hl.excl hx]⟩ <;> by_cases e : u = t
    · subst e; simp [htW, ht']
    · exact ho u e ▸ hl.writer u
    · subst e; simp [hl.nodup.mem_erase_iff, ht']
    · simp [hl.nodup.mem_erase_iff, e, ho u e, hl.readers u]
  · have htW : l.writer = some t := (hl.writer t).2 ht
    refine ⟨fun u => ?_, fun u => ?_, hl.nodup, fun hx => absurd rfl hx⟩ <;> by_cases e : u = t
    · subst e; simp [ht']
    · simp [ho u e, ← hl.writer u, htW, Ne.symm e]
    · subst e; simp [hl.excl (by simp [htW]), ht']
    · exact ho u e ▸ hl.readers u

end Lock.Tracks

def Thread.held (kind : Method → LockKind) (th : Thread) : LockKind := if th.holds then th.kind kind else .none

theorem Thread.held_eq {kind : Method → LockKind} {th : Thread} {k : LockKind} (hk : k ≠ .none) :
    th.held kind = k ↔ (th.holds = true ∧ th.kind kind = k) := by
  unfold Thread.held; split <;> simp [*, Ne.symm hk]

theorem lockInv_iff {kind : Method → LockKind} {s : State} :
    LockInv kind s ↔ s.lock.Tracks (fun t => (s.threads t).held kind) := by
  constructor <;> rintro ⟨w, r, n, e⟩ <;> refine ⟨fun t => ?_, fun t => ?_, n, e⟩ <;>
    simp [w t, r t, Thread.held_eq]

attribute [local simp] Thread.holds Thread.kind Thread.held

theorem lockInv_init (kind : Method → LockKind) (progs : Nat → List Op) : LockInv kind (init progs) :=
  ⟨fun t => by simp [init], fun t => by simp [init], List.nodup_nil, fun _ => rfl⟩

theorem lockInv_step {kind : Method → LockKind} {s s' : State} {l : Label}
    (hi : LockInv kind s) (hs : Step kind s l s') : LockInv kind s' := by
  obtain ⟨t, a⟩ := l
  have ho : ∀ u, u ≠ t → (s'.threads u).held kind = (s.threads u).held kind := fun u e => by rw [step_other hs e]
  rw [lockInv_iff] at hi ⊢
  cases hs with
  | call h => exact hi.frame (by simp [h]) ho
  | acquire h ha => exact hi.acquire ha (by simp [h]) (by simp) ho
  | @access _ op _ loc h =>
    refine hi.frame ?_ ho
    cases (micro op loc s.mem).2 <;> simp [h, pcAfter]
  | release h => exact hi.release (by simp [h]) (by simp) ho
  | ret h => exact hi.frame (by simp [h]) ho

theorem writer_excludes {kind : Method → LockKind} {s : State} {t u : Nat} (hi : LockInv kind s)
    (h : s.lock.writer = some t) (hu : (s.threads u).holds = true) (hk : (s.threads u).kind kind ≠ .none) :
    u = t := by
  cases hk' : (s.threads u).kind kind with
  | none => exact absurd hk' hk
  | read =>
    have := (hi.readers u).2 ⟨hu, hk'⟩
    rw [hi.excl (by simp [h])] at this; cases this
  | write =>
    have := (hi.writer u).2 ⟨hu, hk'⟩
    rw [h] at this; cases this; rfl

theorem no_conflict {kind : Method → LockKind} {s : State} (ld : LockDiscipline kind) (hi : LockInv kind s) :
    ¬ Conflict s := by
  rintro ⟨t, u, op1, r1, l1, op2, r2, l2, hne, ht, hu, hw⟩
  have key : ∀ {a b opa ra la opb rb lb}, s.threads a = ⟨opa :: ra, .inside la⟩ →
      s.threads b = ⟨opb :: rb, .inside lb⟩ → isWrite opa la = true → b = a := by
    intro a b opa ra la opb rb lb ha hb hwa
    have hka := (ld opa.method).2 (isWrite_method hwa)
    refine writer_excludes hi ((hi.writer a).2 ?_) ?_ ?_
    · simp [ha, hka]
    · simp [hb]
    · simpa [hb] using (ld opb.method).1
  rcases hw with hw | hw
  · exact hne (key ht hu hw).symm
  · exact hne (key hu ht hw)

def SimInv (s : State) : Prop :=
  ∀ t op rest loc, s.threads t = ⟨op :: rest, .inside loc⟩ → LocOk op loc s.mem

theorem simInv_init (progs : Nat → List Op) : SimInv (init progs) := by
  intro t op rest loc h; simp [init] at h

theorem step_mem {kind : Method → LockKind} {s s' : State} {t : Nat} {a : Act} (hs : Step kind s (t, a) s') :
    s'.mem = s.mem ∨ ∃ op rest loc, s.threads t = ⟨op :: rest, .inside loc⟩ ∧ isWrite op loc = true := by
  cases hs with
  | @access _ op rest loc h =>
    cases hw : isWrite op loc
    · exact .inl (micro_read _ hw)
    · exact .inr ⟨_, _, _, h, hw⟩
  | _ => exact .inl rfl

theorem simInv_step {kind : Method → LockKind} {s s' : State} {l : Label} (hc : ¬ Conflict s) (hsim : SimInv s)
    (hs : Step kind s l s') : SimInv s' := by
  obtain ⟨t, a⟩ := l
  intro u op' rest' loc' hu
  by_cases e : u = t
  · subst e
    cases hs with
    | acquire h ha =>
      simp only [setT_threads, if_true] at hu
      cases hu; exact locOk_start _ _
    | @access _ op rest loc h =>
      have hms := micro_spec (hsim _ _ _ _ h)
      simp only [setT_threads, if_true] at hu
      generalize micro op loc s.mem = x at hms hu ⊢
      obtain ⟨m', (lc | r)⟩ := x <;> cases hu
      exact hms.1 ▸ hms.2
    | _ => simp at hu
  · -- another thread's observations stay true: the memory is the same, or the step was a write beside them
    rw [step_other hs e] at hu
    rcases step_mem hs with hm | ⟨op, rest, loc, h, hw⟩
    · rw [hm]; exact hsim _ _ _ _ hu
    · exact absurd ⟨t, u, _, _, _, _, _, _, Ne.symm e, h, hu, .inl hw⟩ hc

/-- forward simulation onto the atomic object, with the memory itself as abstract state; the linearization points are
the steps labelled `acc op (some r)` -/
theorem step_sim {kind : Method → LockKind} {s s' : State} {l : Label} (hsim : SimInv s) (hs : Step kind s l s') :
    (∀ op r, l.2 = .acc op (some r) → (s'.mem, r) = specStep s.mem op) ∧
    ((∀ op r, l.2 ≠ .acc op (some r)) → s'.mem = s.mem) := by
  cases hs with
  | @access _ op rest loc h =>
    have hms := micro_spec (hsim _ _ _ _ h)
    generalize micro op loc s.mem = x at hms ⊢
    obtain ⟨m', (lc | r)⟩ := x
    · exact ⟨fun _ _ e => (by cases e), fun _ => hms.1⟩
    · exact ⟨fun _ _ e => (by cases e; exact hms), fun hne => absurd rfl (hne op r)⟩
  | _ => exact ⟨fun _ _ e => (by cases e), fun _ => rfl⟩

theorem Run.prefix {kind : Method → LockKind} {s0 s : State} {tr : List Label} (h : Run kind s0 tr s) :
    ∀ p q, tr = p ++ q → ∃ mid, Run kind s0 p mid := by
  induction h with
  | nil =>
    intro p q e
    obtain ⟨rfl, -⟩ := List.nil_eq_append_iff.1 e
    exact ⟨_, .nil⟩
  | @snoc tr s l s' hr hs ih =>
    intro p q e
    rcases List.eq_nil_or_concat q with rfl | ⟨q', x, rfl⟩
    · rw [List.append_nil] at e
      exact e ▸ ⟨_, hr.snoc hs⟩
    · rw [List.concat_eq_append, ← List.append_assoc] at e
      exact ih p q' (List.append_inj_left' e rfl)

theorem run_lockInv {kind : Method → LockKind} {progs : Nat → List Op} {tr : List Label} {s : State}
    (h : Run kind (init progs) tr s) : LockInv kind s := by
  induction h with
  | nil => exact lockInv_init _ _
  | snoc _ hs ih => exact lockInv_step ih hs

theorem run_simInv {kind : Method → LockKind} {progs : Nat → List Op} {tr : List Label} {s : State}
    (ld : LockDiscipline kind) (h : Run kind (init progs) tr s) : SimInv s := by
  induction h with
  | nil => exact simInv_init _
  | snoc hr hs ih => exact simInv_step (no_conflict ld (run_lockInv hr)) ih hs

/-- bookkeeping of one thread: its calls `cs`, linearization points `ls` and returns `rs` so far, against its
program `prog0` and its control state -/
def HistOk (prog0 : List Op) (th : Thread) (cs : List Op) (ls rs : List (Op × Res)) : Prop :=
  match th.pc, th.prog with
  | .idle, p => rs = ls ∧ cs = ls.map (·.1) ∧ cs ++ p = prog0
  | .waiting, op :: p => rs = ls ∧ cs = ls.map (·.1) ++ [op] ∧ cs ++ p = prog0
  | .inside _, op :: p => rs = ls ∧ cs = ls.map (·.1) ++ [op] ∧ cs ++ p = prog0
  | .leaving r, op :: p => ls = rs ++ [(op, r)] ∧ cs = ls.map (·.1) ∧ cs ++ p = prog0
  | .returning r, op :: p => ls = rs ++ [(op, r)] ∧ cs = ls.map (·.1) ∧ cs ++ p = prog0
  | _, [] => False

structure Hist (progs : Nat → List Op) (tr : List Label) (s : State) : Prop where
  thread : ∀ t, HistOk (progs t) (s.threads t) (calls t tr) (lins t tr) (rets t tr)
  replay : replay [] (linAll tr) = some s.mem

theorem replay_append (m : Spec) (l l' : List (Nat × Op × Res)) :
    replay m (l ++ l') = (replay m l).bind (replay · l') := by
  induction l generalizing m with
  | nil => rfl
  | cons x l ih => simp only [List.cons_append, replay]; split <;> simp [ih]

theorem calls_append (t : Nat) (p q : List Label) : calls t (p ++ q) = calls t p ++ calls t q :=
  List.filterMap_append ..
theorem lins_append (t : Nat) (p q : List Label) : lins t (p ++ q) = lins t p ++ lins t q :=
  List.filterMap_append ..
theorem rets_append (t : Nat) (p q : List Label) : rets t (p ++ q) = rets t p ++ rets t q :=
  List.filterMap_append ..
theorem linAll_append (p q : List Label) : linAll (p ++ q) = linAll p ++ linAll q :=
  List.filterMap_append ..

theorem hist_other {t u : Nat} (a : Act) (h : t ≠ u) :
    calls u [(t, a)] = [] ∧ lins u [(t, a)] = [] ∧ rets u [(t, a)] = [] := by
  rcases a with _ | _ | ⟨_, _ | _⟩ | _ | _ <;>
    simp only [calls, lins, rets, List.filterMap_cons, List.filterMap_nil, if_neg h, and_self]

theorem hist_self (t : Nat) (a : Act) :
    calls t [(t, a)] = (match a with | .call op => [op] | _ => []) ∧
    lins t [(t, a)] = (match a with | .acc op (some r) => [(op, r)] | _ => []) ∧
    rets t [(t, a)] = (match a with | .ret op r => [(op, r)] | _ => []) := by
  rcases a with _ | _ | ⟨_, _ | _⟩ | _ | _ <;>
    simp only [calls, lins, rets, List.filterMap_cons, List.filterMap_nil, if_pos, and_self]

theorem hist_init (progs : Nat → List Op) : Hist progs [] (init progs) :=
  ⟨fun _ => ⟨rfl, rfl, rfl⟩, rfl⟩

theorem hist_step {kind : Method → LockKind} {progs : Nat → List Op} {tr : List Label} {s s' : State} {l : Label}
    (hsim : SimInv s) (hh : Hist progs tr s) (hs : Step kind s l s') : Hist progs (tr ++ [l]) s' := by
  obtain ⟨t, a⟩ := l
  refine ⟨fun u => ?_, ?_⟩
  · have hu := hh.thread u
    rw [calls_append, lins_append, rets_append]
    generalize calls u tr = cs, lins u tr = ls, rets u tr = rs at hu ⊢
    by_cases e : u = t
    · subst e
      cases hs with
      | call h =>
        rw [h] at hu; obtain ⟨h1, h2, h3⟩ := hu
        simp [HistOk, hist_self, h1, h2, ← h3]
      | acquire h ha => rw [h] at hu; simpa [HistOk, hist_self] using hu
      | @access _ op _ loc h =>
        rw [h] at hu; obtain ⟨h1, h2, h3⟩ := hu
        cases (micro op loc s.mem).2 <;> simp [HistOk, hist_self, linOf, pcAfter, h1, h2, ← h3]
      | release h => rw [h] at hu; simpa [HistOk, hist_self] using hu
      | ret h =>
        rw [h] at hu; obtain ⟨h1, h2, h3⟩ := hu
        simp [HistOk, hist_self, h1, h2, ← h3]
    · obtain ⟨h1, h2, h3⟩ := hist_other a (Ne.symm e)
      rw [step_other hs e, h1, h2, h3]; simpa using hu
  · obtain ⟨hlin, hno⟩ := step_sim hsim hs
    rw [linAll_append, replay_append, hh.replay]
    rcases a with _ | _ | ⟨op, _ | r⟩ | _ | _
    case acc.some => simp [linAll, replay, ← hlin op r rfl]
    all_goals exact congrArg some (hno fun _ _ e => by cases e).symm

theorem run_hist {kind : Method → LockKind} {progs : Nat → List Op} {tr : List Label} {s : State}
    (ld : LockDiscipline kind) (h : Run kind (init progs) tr s) : Hist progs tr s := by
  induction h with
  | nil => exact hist_init _
  | snoc hr hs ih => exact hist_step (run_simInv ld hr) ih hs

/-- the linearization point of each call lies between its call and its return (counting form) -/
theorem hist_counts {prog0 : List Op} {th : Thread} {cs : List Op} {ls rs : List (Op × Res)}
    (h : HistOk prog0 th cs ls rs) : rs.length ≤ ls.length ∧ ls.length ≤ cs.length := by
  unfold HistOk at h
  -- in the last case `h : False`, which `obtain` eliminates
  split at h <;> obtain ⟨h1, h2, -⟩ := h <;> simp [h1, h2]

theorem lins_eq_linAll (t : Nat) (tr : List Label) :
    lins t tr = (linAll tr).filterMap (fun x => if x.1 = t then some x.2 else none) := by
  rw [lins, linAll, List.filterMap_filterMap]
  congr 1; funext ⟨u, a⟩
  rcases a with _ | _ | ⟨op, _ | r⟩ | _ | _ <;> rfl

theorem complete_hist {progs : Nat → List Op} {tr : List Label} {s : State}
    (hh : Hist progs tr s) (hc : Complete s) (t : Nat) :
    calls t tr = progs t ∧ (lins t tr).map (·.1) = progs t ∧ rets t tr = lins t tr := by
  have := hh.thread t
  rw [hc t] at this
  simp only [HistOk, List.append_nil] at this
  exact ⟨this.2.2, this.2.1 ▸ this.2.2, this.1⟩

/-- the calls that may change whether batch `b` is found in file `id` -/
def touchesBatch (id b : Nat) : Op → Bool
  | .storeBatch i c | .deleteBatch i c => i == id && c == b
  | .deleteFile i => i == id
  | .sweep _ => true
  | _ => false

theorem batchesOf_put (i j : Nat) (v : FileV) (m : Spec) :
    batchesOf j (put i v m) = if j = i then v.batches else batchesOf j m := by
  by_cases e : j = i <;> simp [batchesOf, e]

theorem findBatch_eq (s : Spec) (id b : Nat) :
    specStep s (.findBatch id b) = (s, if b ∈ batchesOf id s then .batch b else .notFound) := by
  cases hg : get id s <;> simp only [specStep, batchesOf, hg]
  · simp
  · split <;> rfl

theorem mem_batchesOf_frame (s : Spec) {id b : Nat} {op : Op} (h : touchesBatch id b op = false) :
    b ∈ batchesOf id (specStep s op).1 ↔ b ∈ batchesOf id s := by
  fun_cases specStep s op <;> simp [touchesBatch] at h <;> simp only [batchesOf_put]
  -- left: the branches that change the state (`sweep` is excluded by `h`), in the order of the definition
  · split
    · subst_vars; simp [batchesOf, *]
    · rfl
  · simp [batchesOf, Ne.symm h]
  · split
    · subst_vars; simp [batchesOf, *, Ne.symm (h rfl)]
    · rfl
  · split
    · subst_vars; simpa [batchesOf, *] using mem_eraseIdx_other ‹_› (Ne.symm (h rfl))
    · rfl

theorem step_iff_next {kind : Method → LockKind} {s s' : State} {t : Nat} {a : Act} :
    Step kind s (t, a) s' ↔ next kind s t = some (a, s') := by
  constructor
  · intro h
    cases h <;> simp only [next, *]
  · fun_cases next kind s t <;> intro h <;> cases h
    · exact .call ‹_›
    · exact .acquire ‹_› ‹_›
    · exact .access ‹_›
    · exact .release ‹_›
    · exact .ret ‹_›

theorem conflict_of_conflictB {s : State} {t u : Nat} (h : conflictB s t u = true) : Conflict s := by
  simp only [conflictB, Bool.and_eq_true, bne_iff_ne] at h
  obtain ⟨hne, h⟩ := h
  split at h
  · rename_i op1 r1 l1 op2 r2 l2 h1 h2
    exact ⟨t, u, op1, r1, l1, op2, r2, l2, hne, h1, h2, by simpa using h⟩
  · cases h

theorem Method.mem_all (m : Method) : m ∈ Method.all := by cases m <;> decide

theorem ld_of_check {kind : Method → LockKind} (h : ldCheck kind = true) : LockDiscipline kind := fun m => by
  simpa [Decidable.imp_iff_not_or] using List.all_eq_true.1 h m m.mem_all

theorem exec_reachable {kind : Method → LockKind} {progs : Nat → List Op} (sched : List Nat) {s : State}
    (h : Reachable kind progs s) : Reachable kind progs (exec kind s sched) := by
  fun_induction exec kind s sched
  · exact h
  · rename_i hn ih
    obtain ⟨tr, hr⟩ := h
    exact ih ⟨_, hr.snoc (step_iff_next.2 hn)⟩
  · rename_i ih; exact ih h

theorem exec_other (kind : Method → LockKind) (sched : List Nat) (s : State) (u : Nat) (hu : u ∉ sched) :
    (exec kind s sched).threads u = s.threads u := by
  fun_induction exec kind s sched
  · rfl
  · rename_i hn ih
    rw [ih (List.not_mem_of_not_mem_cons hu), step_other (step_iff_next.2 hn) (List.ne_of_not_mem_cons hu)]
  · rename_i ih; exact ih (List.not_mem_of_not_mem_cons hu)

end Ach.Repo
