import Ach.Proofs.Field
/-!
# Numeric fields: `parseNumField (numericField v w) = v` for `0 ≤ v < 10^w`

A string of decimal digits that fits 64 bits parses to its value, the empty one to 0 (`parseNumField_digits`);
`natDigits` and zero padding produce such strings.
-/
namespace Ach

theorem not_isSpace_of_isDigit {c : Char} (h : isDigit c = true) : isSpace c = false := by
  simp only [isDigit, Bool.and_eq_true, decide_eq_true_eq] at h
  have h0 : 48 ≤ c.val.toNat := UInt32.le_iff_toNat_le.1 h.1
  have h9 : c.val.toNat ≤ 57 := UInt32.le_iff_toNat_le.1 h.2
  simp only [isSpace, Bool.or_eq_false_iff, Bool.and_eq_false_iff, decide_eq_false_iff_not]
  omega

theorem no_space_of_all_isDigit {s : Str} (hd : s.all isDigit = true) : ∀ c ∈ s, isSpace c = false :=
  fun c hc => not_isSpace_of_isDigit (List.all_eq_true.1 hd c hc)

theorem atoi_digits (s : Str) (hne : s ≠ []) (hd : s.all isDigit = true) (hmax : (digitsVal s : Int) ≤ maxInt64) :
    atoi s = some (digitsVal s : Int) := by
  -- the first character is a digit, not a sign
  have hsplit : signSplit s = (false, s) := by
    unfold signSplit
    split
    · exact absurd (List.all_eq_true.1 hd '-' (List.mem_cons_self ..)) (by decide)
    · exact absurd (List.all_eq_true.1 hd '+' (List.mem_cons_self ..)) (by decide)
    · rfl
  have hmin : ¬ (digitsVal s : Int) < minInt64 := by
    have : (0 : Int) ≤ (digitsVal s : Int) := Int.natCast_nonneg _
    unfold minInt64; omega
  simp only [atoi, hsplit, atoiCore, List.isEmpty_eq_false_iff.2 hne, hd, Bool.not_true, Bool.or_false,
    Bool.false_eq_true, if_false, if_neg (Int.not_lt.2 hmax), if_neg hmin]

theorem parseNumField_digits (s : Str) (hd : s.all isDigit = true) (hmax : (digitsVal s : Int) ≤ maxInt64) :
    parseNumField s = digitsVal s := by
  cases s with
  | nil => rfl  -- `Atoi` fails on the empty string, and the error is ignored
  | cons c t =>
    rw [parseNumField, trimSpace_of_no_space _ (no_space_of_all_isDigit hd), atoi_digits _ (List.cons_ne_nil c t) hd hmax]
    rfl

/-- the accumulator of the fold that reads a decimal holds the leading digits -/
theorem digitsVal_foldl (s : Str) (acc : Nat) :
    s.foldl (fun a c => a * 10 + digitVal c) acc = acc * 10 ^ s.length + digitsVal s := by
  induction s generalizing acc with
  | nil => simp [digitsVal]
  | cons c t ih =>
    rw [digitsVal, List.foldl_cons, List.foldl_cons, ih, ih (0 * 10 + digitVal c), List.length_cons, Nat.pow_succ,
      Nat.add_mul, Nat.zero_mul, Nat.zero_add, Nat.mul_assoc, Nat.mul_comm 10, Nat.add_assoc]

theorem digitsVal_cons (c : Char) (t : Str) : digitsVal (c :: t) = digitVal c * 10 ^ t.length + digitsVal t := by
  rw [digitsVal, List.foldl_cons, digitsVal_foldl, Nat.zero_mul, Nat.zero_add]

theorem digitsVal_append (s t : Str) : digitsVal (s ++ t) = digitsVal s * 10 ^ t.length + digitsVal t := by
  rw [digitsVal, List.foldl_append, digitsVal_foldl]; rfl

theorem digitChar_spec : ∀ d < 10, isDigit (digitChar d) = true ∧ digitVal (digitChar d) = d := by decide

theorem digitsVal_append_single (s : Str) (c : Char) : digitsVal (s ++ [c]) = digitsVal s * 10 + digitVal c := by
  simp [digitsVal, List.foldl_append]

theorem natDigits_spec (n : Nat) : (natDigits n).all isDigit = true ∧ digitsVal (natDigits n) = n := by
  induction n using natDigits.induct with
  | case1 n h =>
    obtain ⟨hd, hv⟩ := digitChar_spec n h
    rw [natDigits, dif_pos h]
    -- `digitsVal [c]` unfolds to `0 * 10 + digitVal c`
    exact ⟨by rw [List.all_cons, hd]; rfl, (Nat.zero_add _).trans hv⟩
  | case2 n h ih =>
    obtain ⟨hd, hv⟩ := digitChar_spec (n % 10) (Nat.mod_lt _ (by decide))
    rw [natDigits, dif_neg h]
    refine ⟨by rw [List.all_append, ih.1, List.all_cons, hd]; rfl, ?_⟩
    rw [digitsVal_append_single, ih.2, hv, Nat.div_add_mod']

theorem natDigits_length_le : ∀ (k n : Nat), n < 10 ^ (k + 1) → (natDigits n).length ≤ k + 1
  | 0, n, hn => by rw [natDigits, dif_pos hn]; exact Nat.le_refl 1
  | k + 1, n, hn => by
    rw [natDigits]
    split
    · exact Nat.succ_le_succ (Nat.zero_le _)
    · have : n / 10 < 10 ^ (k + 1) := Nat.div_lt_of_lt_mul (by rwa [Nat.pow_succ, Nat.mul_comm] at hn)
      rw [List.length_append, List.length_singleton]
      exact Nat.succ_le_succ (natDigits_length_le k (n / 10) this)

theorem zeros_all_digit (k : Nat) : (zeros k).all isDigit = true :=
  List.all_eq_true.2 fun c hc => by rw [(List.mem_replicate.1 hc).2]; rfl

theorem digitsVal_zeros_append (k : Nat) (s : Str) : digitsVal (zeros k ++ s) = digitsVal s := by
  induction k with
  | zero => rfl
  | succ k ih => exact ih  -- over a leading '0' the fold's accumulator goes from 0 to `0 * 10 + digitVal '0'`, which reduces to 0

theorem parseNumField_zeros_natDigits (j n : Nat) (hmax : (n : Int) ≤ maxInt64) :
    parseNumField (zeros j ++ natDigits n) = n := by
  obtain ⟨hd, hval⟩ := natDigits_spec n
  have hv : digitsVal (zeros j ++ natDigits n) = n := by rw [digitsVal_zeros_append, hval]
  rw [parseNumField_digits _ (by rw [List.all_append, zeros_all_digit, hd]; rfl) (by rw [hv]; exact hmax), hv]

/-- **numeric round trip**: a non-negative value that fits its field is recovered by `parseNumField` -/
theorem parseNumField_numericField (v : Int) (w : Nat) (hw1 : 1 ≤ w) (hw : w ≤ lineLength)
    (h0 : 0 ≤ v) (hfit : v < 10 ^ w) (hmax : v ≤ maxInt64) :
    parseNumField (numericField v w) = v := by
  obtain ⟨n, rfl⟩ := Int.eq_ofNat_of_zero_le h0
  obtain ⟨k, rfl⟩ : ∃ k, w = k + 1 := ⟨w - 1, (Nat.sub_add_cancel hw1).symm⟩
  have hlen : (itoa (n : Int)).length ≤ k + 1 := natDigits_length_le k n (by exact_mod_cast hfit)
  rw [numericField_of_le _ _ hw hlen]
  exact parseNumField_zeros_natDigits _ n hmax

end Ach
