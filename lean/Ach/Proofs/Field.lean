import Ach.Model.Field
/-!
# Field-level lemmas: trimming, widths and parse ∘ render

A string is `Trimmed` iff `trimLeft` and `trimRight` each leave it alone (`trimmed_iff`), that is, iff neither its
first nor its last character is white space (`trimmed_iff_edges`); the facts about `trimSpace` are read off one of
the two forms.
-/
namespace Ach

theorem dropWhile_eq_self_iff {α : Type} (p : α → Bool) (l : List α) :
    l.dropWhile p = l ↔ ∀ a, l.head? = some a → p a = false := by
  cases l with
  | nil => simp
  | cons a l =>
    cases h : p a with
    | false => simp [h]
    | true =>
      -- `dropWhile p l` is at most as long as `l`, so it is not `a :: l`
      have hlen := (List.dropWhile_suffix p (l := l)).length_le
      rw [List.dropWhile_cons_of_pos h]
      exact ⟨fun e => absurd (e ▸ hlen) (Nat.not_succ_le_self _), fun e => nomatch (e a rfl).symm.trans h⟩

theorem head_dropWhile_false {α : Type} {p : α → Bool} {l : List α} {a : α} (h : (l.dropWhile p).head? = some a) :
    p a = false := by
  have := List.head?_dropWhile_not p l
  rwa [h] at this

theorem dropWhile_eq_self_of_head {p : Char → Bool} : ∀ {s : Str}, s.dropWhile p = s → (s.dropWhile p).dropWhile p = s.dropWhile p
  | _, h => by rw [h, h]

def Trimmed (s : Str) : Prop := trimSpace s = s

instance (s : Str) : Decidable (Trimmed s) := inferInstanceAs (Decidable (trimSpace s = s))

theorem trimLeft_eq_self_iff (s : Str) : trimLeft s = s ↔ ∀ c, s.head? = some c → isSpace c = false :=
  dropWhile_eq_self_iff isSpace s

theorem trimRight_eq_self_iff (s : Str) : trimRight s = s ↔ ∀ c, s.getLast? = some c → isSpace c = false := by
  rw [trimRight, List.reverse_eq_iff, dropWhile_eq_self_iff, List.head?_reverse]

theorem trimLeft_idem (s : Str) : trimLeft (trimLeft s) = trimLeft s :=
  (trimLeft_eq_self_iff _).2 fun _ => head_dropWhile_false

theorem trimRight_idem (s : Str) : trimRight (trimRight s) = trimRight s :=
  (trimRight_eq_self_iff _).2 fun _ h =>
    head_dropWhile_false (l := s.reverse) (by rwa [trimRight, List.getLast?_reverse] at h)

theorem trimLeft_suffix (s : Str) : trimLeft s <:+ s := List.dropWhile_suffix _

theorem trimRight_prefix (s : Str) : trimRight s <+: s := by
  have := List.reverse_prefix.2 (List.dropWhile_suffix isSpace (l := s.reverse))
  rwa [List.reverse_reverse] at this

theorem length_trimSpace_le (s : Str) : (trimSpace s).length ≤ s.length :=
  Nat.le_trans (trimRight_prefix _).length_le (trimLeft_suffix s).length_le

theorem trimmed_iff (s : Str) : Trimmed s ↔ trimLeft s = s ∧ trimRight s = s := by
  constructor
  · intro (h : trimRight (trimLeft s) = s)
    -- `s = trimRight (trimLeft s)` is a prefix of its own suffix `trimLeft s`: they have the same length
    have hl : trimLeft s = s := (trimLeft_suffix s).eq_of_length_le (by
      have := (trimRight_prefix (trimLeft s)).length_le
      rwa [h] at this)
    exact ⟨hl, by rwa [hl] at h⟩
  · intro ⟨hl, hr⟩
    rw [Trimmed, trimSpace, hl, hr]

theorem trimmed_iff_edges (s : Str) : Trimmed s ↔
    (∀ c, s.head? = some c → isSpace c = false) ∧ (∀ c, s.getLast? = some c → isSpace c = false) := by
  rw [trimmed_iff, trimLeft_eq_self_iff, trimRight_eq_self_iff]

theorem trimmed_trimSpace (s : Str) : Trimmed (trimSpace s) := by
  refine (trimmed_iff _).2 ⟨(trimLeft_eq_self_iff _).2 fun c hc => ?_, trimRight_idem _⟩
  -- `trimSpace s` is a prefix of `trimLeft s`; when not empty it starts with the same character, not a space
  obtain ⟨t, ht⟩ := trimRight_prefix (trimLeft s)
  refine head_dropWhile_false (l := s) (p := isSpace) ?_
  show (trimLeft s).head? = some c
  rw [← ht, List.head?_append, show (trimRight (trimLeft s)).head? = some c from hc]
  rfl

theorem trimmed_nil : Trimmed [] := rfl

theorem trimSpace_of_no_space (s : Str) (h : ∀ c ∈ s, isSpace c = false) : trimSpace s = s :=
  (trimmed_iff_edges s).2 ⟨fun c hc => h c (List.mem_of_head? hc), fun c hc => h c (List.mem_of_getLast? hc)⟩

theorem trimmed_append_left {a t : Str} (ha : ∀ c ∈ a, isSpace c = false) (ht : Trimmed t) : Trimmed (a ++ t) := by
  rw [trimmed_iff_edges] at ht ⊢
  simp only [List.head?_append, List.getLast?_append, Option.or_eq_some_iff]
  exact ⟨fun c h => h.elim (fun h => ha c (List.mem_of_head? h)) (fun h => ht.1 c h.2),
    fun c h => h.elim (ht.2 c) (fun h => ha c (List.mem_of_getLast? h.2))⟩

theorem trimLeft_spaces_append (n : Nat) (t : Str) : trimLeft (spaces n ++ t) = trimLeft t :=
  List.dropWhile_append_of_pos fun c hc => by rw [(List.mem_replicate.1 hc).2]; rfl

theorem trimRight_append_spaces (s : Str) (n : Nat) : trimRight (s ++ spaces n) = trimRight s := by
  rw [trimRight, List.reverse_append, spaces, List.reverse_replicate]
  exact congrArg List.reverse (trimLeft_spaces_append n s.reverse)

theorem trimSpace_append_spaces (s : Str) (n : Nat) (h : Trimmed s) : trimSpace (s ++ spaces n) = s := by
  obtain ⟨hl, hr⟩ := (trimmed_iff s).1 h
  cases s with
  | nil =>
    -- all the blanks go from the left
    rw [trimSpace, List.nil_append, ← List.append_nil (spaces n), trimLeft_spaces_append]
    rfl
  | cons a s =>
    -- the first character is still `a`: nothing is cut on the left
    have hl' : trimLeft (a :: s ++ spaces n) = a :: s ++ spaces n :=
      (trimLeft_eq_self_iff _).2 ((trimLeft_eq_self_iff (a :: s)).1 hl)
    rw [trimSpace, hl', trimRight_append_spaces, hr]

theorem trimRightSpaces_decomp (r : Str) : ∃ k, r = trimRightSpaces r ++ spaces k := by
  refine ⟨(r.reverse.takeWhile (· == ' ')).length, ?_⟩
  have hsp : (r.reverse.takeWhile (· == ' ')).reverse = spaces (r.reverse.takeWhile (· == ' ')).length :=
    List.eq_replicate_iff.2 ⟨List.length_reverse, fun c hc =>
      eq_of_beq (List.all_eq_true.1 List.all_takeWhile c (List.mem_reverse.1 hc))⟩
  rw [trimRightSpaces, ← hsp, ← List.reverse_append, List.takeWhile_append_dropWhile, List.reverse_reverse]

theorem trimRightSpaces_prefix (r : Str) : trimRightSpaces r <+: r :=
  let ⟨k, hk⟩ := trimRightSpaces_decomp r
  ⟨spaces k, hk.symm⟩

theorem alphaField_of_le (s : Str) (max : Nat) (hm : max ≤ lineLength) (hl : s.length ≤ max) :
    alphaField s max = s ++ spaces (max - s.length) := by
  rw [alphaField, if_neg (Nat.not_lt.2 hm), if_neg (Nat.not_lt.2 hl)]

theorem stringField_of_le (s : Str) (max : Nat) (hm : max ≤ lineLength) (hl : s.length ≤ max) :
    stringField s max = zeros (max - s.length) ++ s := by
  rw [stringField, if_neg (Nat.not_lt.2 hm), if_neg (Nat.not_lt.2 hl)]

theorem numericField_of_le (n : Int) (max : Nat) (hm : max ≤ lineLength) (hl : (itoa n).length ≤ max) :
    numericField n max = zeros (max - (itoa n).length) ++ itoa n := by
  simp only [numericField, if_neg (Nat.not_lt.2 hm), if_neg (Nat.not_lt.2 hl)]

theorem alphaField_length (s : Str) (max : Nat) (h : max ≤ lineLength) : (alphaField s max).length = max := by
  rw [alphaField, if_neg (Nat.not_lt.2 h)]
  split
  · next hl => exact List.length_take_of_le (Nat.le_of_lt hl)
  · next hl => rw [List.length_append, spaces, List.length_replicate, Nat.add_sub_of_le (Nat.not_lt.1 hl)]

theorem stringField_length (s : Str) (max : Nat) (h : max ≤ lineLength) : (stringField s max).length = max := by
  rw [stringField, if_neg (Nat.not_lt.2 h)]
  split
  · next hl => exact List.length_take_of_le (Nat.le_of_lt hl)
  · next hl => rw [List.length_append, zeros, List.length_replicate, Nat.sub_add_cancel (Nat.not_lt.1 hl)]

theorem numericField_length (n : Int) (max : Nat) (h : max ≤ lineLength) : (numericField n max).length = max := by
  simp only [numericField, if_neg (Nat.not_lt.2 h)]
  split
  · next hl => rw [List.length_drop, Nat.sub_sub_self (Nat.le_of_lt hl)]
  · next hl => rw [List.length_append, zeros, List.length_replicate, Nat.sub_add_cancel (Nat.not_lt.1 hl)]

theorem alphaField_of_length (s : Str) (max : Nat) (hm : max ≤ lineLength) (hl : s.length = max) : alphaField s max = s := by
  rw [alphaField_of_le s max hm (Nat.le_of_eq hl), hl, Nat.sub_self]
  exact List.append_nil s

theorem stringField_of_length (s : Str) (max : Nat) (hm : max ≤ lineLength) (hl : s.length = max) : stringField s max = s := by
  rw [stringField_of_le s max hm (Nat.le_of_eq hl), hl, Nat.sub_self]
  rfl

theorem trimSpace_alphaField (s : Str) (max : Nat) (hm : max ≤ lineLength) (hl : s.length ≤ max) (ht : Trimmed s) :
    trimSpace (alphaField s max) = s := by
  rw [alphaField_of_le s max hm hl]
  exact trimSpace_append_spaces s _ ht

end Ach
