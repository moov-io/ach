import Ach.Model.ReaderSM
/-!
# Lemmas about the Reader's record dispatcher: reading what the Writer emits rebuilds the tree; no `9` record, no
file; acceptance only grows with the validation outcomes

The round trip runs `step` with every validation succeeding over one open batch, wherever the Reader keeps it
(`St.focus`).  Everything said about `step` under arbitrary outcomes comes from one case analysis, `step_verdict`.
-/
namespace Ach.ReaderSM

/-- the order the Writer emits an entry's addenda in: ranks ascend, equal ranks only inside a slice -/
def SlotLE (a b : Slot × Rec) : Prop := a.1.rank < b.1.rank ∨ (a.1.rank = b.1.rank ∧ b.1.multi = true)

theorem attach_append (sl : Slot) (r : Rec) (l : List (Slot × Rec)) (h : ∀ x ∈ l, SlotLE x (sl, r)) :
    attach sl r l = l ++ [(sl, r)] := by
  induction l with
  | nil => rfl
  | cons x xs ih =>
    obtain ⟨sl', r'⟩ := x
    rw [List.forall_mem_cons] at h
    -- neither test of `attach` puts the new record before `x`: its rank is larger, or equal inside a slice
    have h1 : ¬ sl.rank < sl'.rank := by
      rcases h.1 with hlt | ⟨heq, _⟩
      · exact Nat.lt_asymm hlt
      · exact heq ▸ Nat.lt_irrefl _
    have h2 : (decide (sl.rank = sl'.rank) && !sl.multi) = false := by
      rcases h.1 with hlt | ⟨_, hm⟩
      · rw [decide_eq_false (Nat.ne_of_gt hlt)]; rfl
      · rw [show sl.multi = true from hm]; exact Bool.and_false _
    rw [attach, if_neg h1, h2, if_neg Bool.false_ne_true, ih h.2]
    rfl

theorem attachLast_snoc (sl : Slot) (r : Rec) (es : List TEntry) (e : TEntry) :
    attachLast sl r (es ++ [e]) = es ++ [{ e with addenda := attach sl r e.addenda }] := by
  induction es with
  | nil => rfl
  | cons x xs ih =>
    cases xs with
    | nil => rfl
    | cons y ys => exact congrArg (x :: ·) ih

theorem addendaInto_snoc (b : TBatch) (es : List TEntry) (e : TEntry) (sl : Slot) (r : Rec)
    (hind : e.ind = true) (hle : ∀ x ∈ e.addenda, SlotLE x (sl, r)) :
    addendaInto { b with entries := es ++ [e] } (some sl) true r =
      .ok { b with entries := es ++ [{ e with addenda := e.addenda ++ [(sl, r)] }] } := by
  simp [addendaInto, hind, attachLast_snoc, attach_append sl r e.addenda hle]

/-! ## well-formed trees (the records of a file in the order the Writer emits them) -/

/-- the addenda record `r` selects slot `sl` when it follows an entry of a batch of kind `k` -/
def SlotOK (k : BKind) (sl : Slot) : Rec → Prop
  | .ad stdSlot iatSlot _ =>
    match k with
    | .std => stdSlot = some sl
    | .adv => sl = advSlot
    | .iat => iatSlot = some sl
  | _ => False

def EntryOK (ind : Bool) : Rec → Prop
  | .ed i _ => i = ind
  | _ => False

structure WFEntry (k : BKind) (e : TEntry) : Prop where
  line : EntryOK e.ind e.line
  ind : e.addenda ≠ [] → e.ind = true
  slots : ∀ x ∈ e.addenda, SlotOK k x.1 x.2
  order : e.addenda.Pairwise SlotLE

def HeaderOK (k : BKind) : Rec → Prop
  | .bh kind _ => kind = k
  | _ => False

def ControlOK : Option Rec → Prop
  | some (.bc _) => True
  | _ => False

structure WFBatch (b : TBatch) : Prop where
  header : HeaderOK b.kind b.header
  entries : ∀ e ∈ b.entries, WFEntry b.kind e
  control : ControlOK b.control
  iatNonEmpty : b.kind = .iat → b.entries ≠ []

theorem SlotOK.eq_ad {k : BKind} {sl : Slot} {r : Rec} (h : SlotOK k sl r) : ∃ std iat id, r = .ad std iat id := by
  cases r with
  | ad std iat id => exact ⟨std, iat, id, rfl⟩
  | _ => exact h.elim

theorem EntryOK.eq_ed {ind : Bool} {r : Rec} (h : EntryOK ind r) : ∃ id, r = .ed ind id := by
  cases r with
  | ed i id => cases h; exact ⟨id, rfl⟩
  | _ => exact h.elim

theorem HeaderOK.eq_bh {k : BKind} {r : Rec} (h : HeaderOK k r) : ∃ id, r = .bh k id := by
  cases r with
  | bh kind id => cases h; exact ⟨id, rfl⟩
  | _ => exact h.elim

theorem ControlOK.eq_bc {c : Option Rec} (h : ControlOK c) : ∃ id, c = some (.bc id) := by
  cases c with
  | none => exact h.elim
  | some r =>
    cases r with
    | bc id => exact ⟨id, rfl⟩
    | _ => exact h.elim

theorem run_cons (s : St) (r : Rec) (v : Bits) (rest : List (Rec × Bits)) :
    run s ((r, v) :: rest) = run (step s r v) rest := rfl

theorem run_append (s : St) (a b : List (Rec × Bits)) : run s (a ++ b) = run (run s a) b :=
  List.foldl_append ..

theorem allOK_cons (r : Rec) (rs : List Rec) : allOK (r :: rs) = (r, Bits.all) :: allOK rs := rfl

theorem allOK_append (a b : List Rec) : allOK (a ++ b) = allOK a ++ allOK b := List.map_append ..

/-- the Reader with batch `b` open and nothing else pending: `b` is `currentBatch`, or `IATCurrentBatch` if it is
an IAT batch -/
def St.focus (s : St) (b : TBatch) : St :=
  if b.kind = .iat then { s with cur := none, iat := some b } else { s with cur := some b, iat := none }

theorem step_header (s : St) (k : BKind) (id : Nat) :
    step { s with cur := none, iat := none } (.bh k id) Bits.all = s.focus ⟨k, .bh k id, [], none⟩ := by
  cases k <;> rfl

theorem step_entry (s : St) (b : TBatch) (ind : Bool) (id : Nat) :
    step (s.focus b) (.ed ind id) Bits.all = s.focus (addEntry b (.ed ind id) ind) := by
  obtain ⟨kind, header, entries, control⟩ := b
  cases kind <;> rfl

theorem step_addenda (s : St) (b : TBatch) (es : List TEntry) (e : TEntry) (sl : Slot) (r : Rec)
    (hind : e.ind = true) (hle : ∀ x ∈ e.addenda, SlotLE x (sl, r)) (hsl : SlotOK b.kind sl r) :
    step (s.focus { b with entries := es ++ [e] }) r Bits.all =
      s.focus { b with entries := es ++ [{ e with addenda := e.addenda ++ [(sl, r)] }] } := by
  obtain ⟨std, iat, id, rfl⟩ := hsl.eq_ad
  obtain ⟨kind, header, entries, control⟩ := b
  have h := addendaInto_snoc ⟨kind, header, entries, control⟩ es e sl (.ad std iat id) hind hle
  cases kind with
  | std => cases (hsl : std = some sl); simp [St.focus, step, Bits.all, h]
  | adv => cases (hsl : sl = advSlot); simp [St.focus, step, Bits.all, h]
  | iat => cases (hsl : iat = some sl); simp [St.focus, step, Bits.all, h]

theorem step_control (s : St) (b : TBatch) (id : Nat) (hne : b.kind = .iat → b.entries ≠ []) :
    step (s.focus b) (.bc id) Bits.all =
      if b.kind = .iat then
        { s with iatBatches := s.iatBatches ++ [{ b with control := some (.bc id) }], cur := none, iat := none }
      else { s with batches := s.batches ++ [{ b with control := some (.bc id) }], cur := none, iat := none } := by
  obtain ⟨kind, header, entries, control⟩ := b
  cases kind with
  | std => rfl
  | adv => rfl
  | iat =>
    cases entries with
    | nil => exact absurd rfl (hne rfl)
    | cons e es => rfl

/-- the addenda `suf` still to come of a well-formed entry `e`, its addenda `pre` already attached -/
theorem run_addenda (s : St) (b : TBatch) (es : List TEntry) (e : TEntry) (he : WFEntry b.kind e)
    (pre suf : List (Slot × Rec)) (h : e.addenda = pre ++ suf) :
    run (s.focus { b with entries := es ++ [{ e with addenda := pre }] }) (allOK (suf.map (·.2))) =
      s.focus { b with entries := es ++ [e] } := by
  induction suf generalizing pre with
  | nil => rw [List.append_nil] at h; rw [← h]; rfl
  | cons x suf ih =>
    have ho := he.order
    rw [h] at ho
    rw [List.map_cons, allOK_cons, run_cons,
      step_addenda s b es { e with addenda := pre } x.1 x.2 (he.ind (by simp [h]))
        (fun y hy => (List.pairwise_append.1 ho).2.2 y hy x (by simp)) (he.slots x (by simp [h]))]
    exact ih (pre ++ [x]) (by simp [h])

theorem run_entry (s : St) (b : TBatch) (e : TEntry) (he : WFEntry b.kind e) :
    run (s.focus b) (allOK (emitEntry e)) = s.focus { b with entries := b.entries ++ [e] } := by
  obtain ⟨id, hl⟩ := he.line.eq_ed
  rw [emitEntry, allOK_cons, run_cons, hl, step_entry, ← hl]
  exact run_addenda s b b.entries e he [] e.addenda rfl

theorem run_entries (s : St) (b : TBatch) (es : List TEntry) (hes : ∀ e ∈ es, WFEntry b.kind e) :
    run (s.focus b) (allOK (es.flatMap emitEntry)) = s.focus { b with entries := b.entries ++ es } := by
  induction es generalizing b with
  | nil => simp [run, allOK]
  | cons e es ih =>
    rw [List.flatMap_cons, allOK_append, run_append, run_entry s b e (hes e (by simp)),
      ih { b with entries := b.entries ++ [e] } (fun e' he' => hes e' (by simp [he']))]
    simp

theorem run_batch (s : St) (b : TBatch) (hb : WFBatch b) :
    run { s with cur := none, iat := none } (allOK (emitBatch b)) =
      if b.kind = .iat then { s with iatBatches := s.iatBatches ++ [b], cur := none, iat := none }
      else { s with batches := s.batches ++ [b], cur := none, iat := none } := by
  obtain ⟨kind, header, entries, control⟩ := b
  obtain ⟨id, rfl⟩ : ∃ id, header = .bh kind id := hb.header.eq_bh
  obtain ⟨cid, rfl⟩ : ∃ id, control = some (.bc id) := hb.control.eq_bc
  have he := run_entries s ⟨kind, .bh kind id, [], none⟩ entries hb.entries
  rw [List.nil_append] at he
  simp only [emitBatch, Option.toList, allOK_cons, allOK_append, run_cons, run_append, step_header, he]
  exact step_control s ⟨kind, .bh kind id, entries, none⟩ cid hb.iatNonEmpty

theorem run_batches (s : St) (l₁ l₂ : List TBatch) (h₁ : ∀ b ∈ l₁, b.kind ≠ .iat ∧ WFBatch b)
    (h₂ : ∀ b ∈ l₂, b.kind = .iat ∧ WFBatch b) :
    run { s with cur := none, iat := none } (allOK (l₁.flatMap emitBatch ++ l₂.flatMap emitBatch)) =
      { s with batches := s.batches ++ l₁, iatBatches := s.iatBatches ++ l₂, cur := none, iat := none } := by
  induction l₁ generalizing s with
  | cons b l ih =>
    rw [List.forall_mem_cons] at h₁
    rw [List.flatMap_cons, List.append_assoc, allOK_append, run_append, run_batch s b h₁.1.2, if_neg h₁.1.1]
    simpa using ih { s with batches := s.batches ++ [b] } h₁.2
  | nil =>
    induction l₂ generalizing s with
    | nil => simp [run, allOK]
    | cons b l ih =>
      rw [List.forall_mem_cons] at h₂
      rw [List.flatMap_nil, List.nil_append, List.flatMap_cons, allOK_append, run_append, run_batch s b h₂.1.2,
        if_pos h₂.1.1]
      simpa using ih h₂.2 { s with iatBatches := s.iatBatches ++ [b] }

theorem run_fillers (s : St) : ∀ (vs : List Bits), run s ((List.replicate vs.length Rec.filler).zip vs) = s
  | [] => rfl
  | _ :: vs => run_fillers s vs

structure WFTree (t : Tree) : Prop where
  header : ∃ id, t.header = .fh id
  batches : ∀ b ∈ t.batches, b.kind ≠ .iat ∧ WFBatch b
  iatBatches : ∀ b ∈ t.iatBatches, b.kind = .iat ∧ WFBatch b
  control : ∃ id, t.control = .fc id

/-- the records before the file control, as the Writer emits them -/
def body (t : Tree) : List Rec := t.header :: (t.batches.flatMap emitBatch ++ t.iatBatches.flatMap emitBatch)

theorem emit_eq_body (t : Tree) : emit t = body t ++ [t.control] := by simp [emit, body]

/-- did the file control record validate as the control the Reader parses it into -/
def controlValid (t : Tree) (vc : Bits) : Bool := if isADV t.batches then vc.v2 else vc.v1

/-- what `Read` returns for the emission of `t` (the Reader's state after the last record; the tail of `Read`
changes nothing) -/
def expected (t : Tree) (vc : Bits) : St :=
  { header := some t.header,
    control := if isADV t.batches then none else some t.control,
    advControl := if isADV t.batches then some t.control else none,
    batches := t.batches,
    iatBatches := t.iatBatches,
    cur := none,
    iat := none,
    errs := if controlValid t vc then [] else [.recInvalid] }

/-- the input of the round trip: every record validates, except that the file control's outcome `vc` is left open;
`fill` are the (irrelevant) outcomes attached to the filler records, one per filler -/
def emitted (t : Tree) (vc : Bits) (fill : List Bits) : List (Rec × Bits) :=
  allOK (body t) ++ [(t.control, vc)] ++ (List.replicate fill.length Rec.filler).zip fill

theorem run_body (t : Tree) (ht : WFTree t) :
    run init (allOK (body t)) = ⟨some t.header, none, none, t.batches, t.iatBatches, none, none, []⟩ := by
  obtain ⟨id, hh⟩ := ht.header
  rw [body, allOK_cons, run_cons, hh]
  simpa [hh, step, init, Bits.all] using
    run_batches ⟨some t.header, none, none, [], [], none, none, []⟩ _ _ ht.batches ht.iatBatches

theorem run_emit (t : Tree) (ht : WFTree t) (vc : Bits) (fill : List Bits) :
    run init (emitted t vc fill) = expected t vc := by
  obtain ⟨cid, hc⟩ := ht.control
  rw [emitted, run_append, run_append, run_body t ht, run_fillers, hc]
  cases hadv : isADV t.batches <;> simp only [run, List.foldl, step, expected, controlValid, hc, hadv]
  · cases vc.v1 <;> rfl
  · cases vc.v2 <;> rfl

theorem ite_err (c : Bool) (t : St) (e : Err) :
    (if c then t.err e else t) = { t with errs := t.errs ++ if c then [e] else [] } := by
  cases c <;> simp [St.err]

theorem finish_errs (a b : Bool) (s : St) : (finish a b s).errs = s.errs ++
    ((if s.header.isNone && !a then [Err.missingHeader] else []) ++
      if (if isADV (s.batches ++ s.cur.toList) then s.advControl.isNone else s.control.isNone) && !b
      then [Err.missingControl] else []) := by
  -- `simp` rewrites the conditions of the `if`s and leaves their `Decidable` instances as they were: `rfl` identifies them
  cases hcur : s.cur <;> simp only [finish, hcur, ite_err, Option.toList, List.append_nil, List.append_assoc] <;> rfl

theorem finish_expected (t : Tree) (vc : Bits) : finish false false (expected t vc) = expected t vc := by
  cases hadv : isADV t.batches <;> simp [finish, expected, hadv]

/-- **reading what the Writer emits** (any number of trailing filler records) rebuilds the same tree, and reports
an error only if the file control record itself does not validate -/
theorem read_emit (t : Tree) (ht : WFTree t) (vc : Bits) (fill : List Bits) :
    read (emitted t vc fill) = expected t vc := by
  rw [read, run_emit t ht vc fill, finish_expected]

def Rec.isFC : Rec → Bool
  | .fc _ => true
  | _ => false

def Bits.le (v w : Bits) : Prop := (v.v1 = true → w.v1 = true) ∧ (v.v2 = true → w.v2 = true) ∧
  (v.v3 = true → w.v3 = true) ∧ (v.b = true → w.b = true)

/-- What one `parseLine` of the record `r` leaves as it is in a state: the errors reported so far and, unless `r` is a
`9` record, the two file controls.  `kept r t = kept r s` holds by `rfl` for every state `t` that `step s r` builds. -/
def kept (r : Rec) (t : St) : List Err × Option (Option Rec × Option Rec) :=
  (t.errs, if r.isFC then none else some (t.control, t.advControl))

theorem kept_errs {r : Rec} {t s : St} (h : kept r t = kept r s) : t.errs = s.errs := congrArg Prod.fst h

theorem kept_controls {r : Rec} {t s : St} (hr : r.isFC = false) (h : kept r t = kept r s) :
    t.control = s.control ∧ t.advControl = s.advControl := by
  simpa [kept, hr] using congrArg Prod.snd h

/-- The shape of `step s r` as a function of the validation outcomes: under each `v` the Reader either reports exactly
one error, from a state `t` that keeps what `kept` names, or reports none, keeps the same, and does the same under
every `w` with more successes. -/
def Verdict (s : St) (r : Rec) (f : Bits → St) : Prop :=
  ∀ v, (∃ t e, kept r t = kept r s ∧ f v = t.err e) ∨ (kept r (f v) = kept r s ∧ ∀ w, Bits.le v w → f w = f v)

namespace Verdict
variable {s : St} {r : Rec} {t : St}

theorem reject {e : Err} (ht : kept r t = kept r s := by rfl) : Verdict s r fun _ => t.err e :=
  fun _ => .inl ⟨t, e, ht, rfl⟩

theorem accept (ht : kept r t = kept r s := by rfl) : Verdict s r fun _ => t :=
  fun _ => .inr ⟨ht, fun _ _ => rfl⟩

theorem check (ok : Bits → Bool) (hok : ∀ {v w}, Bits.le v w → ok v = true → ok w = true) {g : Bits → St}
    (hg : Verdict s r g) {e : Err} (ht : kept r t = kept r s := by rfl) :
    Verdict s r fun v => if ok v then g v else t.err e := by
  intro v
  cases h : ok v with
  | false => exact .inl ⟨t, e, ht, by simp only [h]; rfl⟩
  | true =>
    simp only [h, if_true]
    exact (hg v).imp id fun ⟨h1, h2⟩ => ⟨h1, fun w hw => by rw [hok hw h, if_pos rfl]; exact h2 w hw⟩

end Verdict

theorem addendaInto_mono {b b' : TBatch} {slot : Option Slot} {ok ok' : Bool} {r : Rec}
    (hle : ok = true → ok' = true) (h : addendaInto b slot ok r = .ok b') : addendaInto b slot ok' r = .ok b' := by
  cases ok with
  | true => rw [hle rfl]; exact h
  | false =>
    -- accepted although the validation failed: the type code selects no slot, and `ok` is not consulted
    unfold addendaInto at h ⊢
    cases hl : b.entries.getLast? with
    | none => simp [hl] at h
    | some e =>
      cases hi : e.ind with
      | false => simp [hl, hi] at h
      | true =>
        cases slot with
        | none => simpa [hl, hi] using h
        | some sl => simp [hl, hi] at h

theorem Verdict.addenda {s : St} {r : Rec} (ok : Bits → Bool)
    (hok : ∀ {v w}, Bits.le v w → ok v = true → ok w = true) {b : TBatch} {slot : Option Slot} {a : Rec}
    {put : TBatch → St} {t : St} (hput : ∀ b', kept r (put b') = kept r s := by intro _; rfl)
    (ht : kept r t = kept r s := by rfl) :
    Verdict s r fun v => match addendaInto b slot (ok v) a with
      | .ok b' => put b'
      | .error e => t.err e := by
  intro v
  cases h : addendaInto b slot (ok v) a with
  | error e => exact .inl ⟨t, e, ht, by simp only [h]⟩
  | ok b' => exact .inr ⟨by simp only [h, hput], fun w hw => by simp only [h, addendaInto_mono (hok hw) h]⟩

theorem closePending_ok {s s1 : St} (h : closePending s = .ok s1) :
    s1 = { s with batches := s.batches ++ s.cur.toList, cur := none } := by
  obtain ⟨hd, c, ac, bs, ibs, cur, iat, errs⟩ := s
  cases cur with
  | none => cases h; simp
  | some b =>
    simp only [closePending] at h
    split at h
    · cases h
    · cases h; simp

theorem ite_bnot {α : Type} (c : Bool) (a b : α) : (if !c then a else b) = if c then b else a := by cases c <;> rfl

theorem Bits.le.ite {v w : Bits} (h : Bits.le v w) (c : Bool) (hv : (if c then v.v2 else v.v1) = true) :
    (if c then w.v2 else w.v1) = true := by
  cases c
  · exact h.1 hv
  · exact h.2.1 hv

/-- every branch of `step`: `.check ok mono` names the outcome a validation consults and the conjunct of `Bits.le`
that makes it monotone -/
theorem step_verdict (s : St) (r : Rec) : Verdict s r (step s r) := by
  show Verdict s r fun v => step s r v
  cases r with
  | fh id =>
    dsimp only [step]
    cases s.header
    · exact .check (·.v1) (·.1) .accept
    · exact .reject
  | bh kind id =>
    simp only [step, ite_bnot]
    cases hp : closePending s with
    | error e => exact .reject
    | ok s1 =>
      cases closePending_ok hp
      cases kind == .iat
      · exact .check (·.v1) (·.1) (.check (·.v2) (·.2.1) .accept)
      · exact .check (·.v3) (·.2.2.1) .accept
  | ed ind id =>
    dsimp only [step]
    cases s.iat
    · cases s.cur
      · exact .reject
      · exact .check _ (·.ite _) .accept
    · exact .check (·.v3) (·.2.2.1) .accept
  | ad std iat id =>
    dsimp only [step]
    cases s.cur with
    | none =>
      cases s.iat
      · exact .reject
      · exact .addenda (·.v3) (·.2.2.1)
    | some b =>
      simp only []
      split
      · exact .addenda (·.v2) (·.2.1)
      · exact .addenda (·.v1) (·.1)
  | bc id =>
    simp only [step, ite_bnot]
    cases s.cur
    · cases s.iat with
      | none => exact .reject
      | some ib =>
        simp only []
        cases ib.entries.isEmpty
        · exact .check (·.v1) (·.1) (.check (·.b) (·.2.2.2) .accept)
        · exact .reject
    · exact .check _ (·.ite _) (.check (·.b) (·.2.2.2) .accept)
  | fc id =>
    dsimp only [step]
    cases isADV s.batches
    · cases s.control
      · exact .check (·.v1) (·.1) .accept
      · exact .reject
    · cases s.advControl
      · exact .check (·.v2) (·.2.1) .accept
      · exact .reject
  | filler => exact .accept
  | unknown id => exact .reject

theorem step_errs (s : St) (r : Rec) (v : Bits) : s.errs <+: (step s r v).errs := by
  rcases step_verdict s r v with ⟨t, e, hk, h⟩ | ⟨hk, _⟩
  · exact ⟨[e], by rw [h, ← kept_errs hk]; rfl⟩
  · exact ⟨[], by rw [kept_errs hk, List.append_nil]⟩

theorem step_controls (s : St) (r : Rec) (v : Bits) (hr : r.isFC = false) :
    (step s r v).control = s.control ∧ (step s r v).advControl = s.advControl := by
  rcases step_verdict s r v with ⟨t, e, hk, h⟩ | ⟨hk, _⟩
  · rw [h]; exact kept_controls (t := t) hr hk
  · exact kept_controls hr hk

theorem snoc_ne (l : List Err) (e : Err) : l ++ [e] ≠ l :=
  fun h => List.cons_ne_nil e [] (List.append_right_eq_self.1 h)

theorem step_mono (s : St) (r : Rec) (v w : Bits) (hle : Bits.le v w) (hno : (step s r v).errs = s.errs) :
    step s r w = step s r v := by
  rcases step_verdict s r v with ⟨t, e, hk, h⟩ | ⟨_, h⟩
  · rw [h, ← kept_errs hk] at hno
    exact absurd hno (snoc_ne _ e)
  · exact h w hle

theorem run_controls (s : St) (rs : List (Rec × Bits)) (hrs : ∀ r ∈ rs, r.1.isFC = false) :
    (run s rs).control = s.control ∧ (run s rs).advControl = s.advControl :=
  List.foldlRecOn rs _ (motive := fun t => t.control = s.control ∧ t.advControl = s.advControl) ⟨rfl, rfl⟩
    fun t h r hr =>
      have h1 := step_controls t r.1 r.2 (hrs r hr)
      ⟨h1.1.trans h.1, h1.2.trans h.2⟩

/-- without a file control record the Reader reports `ErrFileControl`, whatever else the text holds and whatever
validates -/
theorem read_without_control (rs : List (Rec × Bits)) (hrs : ∀ r ∈ rs, r.1.isFC = false) :
    Err.missingControl ∈ (read rs).errs := by
  obtain ⟨h1, h2⟩ : (run init rs).control = none ∧ (run init rs).advControl = none := run_controls init rs hrs
  simp [read, finish_errs, h1, h2]

theorem emitBatch_notFC (b : TBatch) (hb : WFBatch b) : ∀ r ∈ emitBatch b, r.isFC = false := by
  intro r hr
  simp only [emitBatch, emitEntry, List.mem_cons, List.mem_append, List.mem_flatMap, List.mem_map,
    Option.mem_toList] at hr
  rcases hr with rfl | ⟨e, he, rfl | ⟨x, hx, rfl⟩⟩ | hc
  · obtain ⟨id, h⟩ := hb.header.eq_bh; rw [h]; rfl
  · obtain ⟨id, h⟩ := (hb.entries e he).line.eq_ed; rw [h]; rfl
  · obtain ⟨std, iat, id, h⟩ := ((hb.entries e he).slots x hx).eq_ad; rw [h]; rfl
  · obtain ⟨id, h⟩ := hb.control.eq_bc; cases h.symm.trans hc; rfl

theorem body_notFC (t : Tree) (ht : WFTree t) : ∀ r ∈ body t, r.isFC = false := by
  intro r hr
  simp only [body, List.mem_cons, List.mem_append, List.mem_flatMap] at hr
  rcases hr with rfl | ⟨b, hb, hrb⟩ | ⟨b, hb, hrb⟩
  · obtain ⟨id, h⟩ := ht.header; rw [h]; rfl
  · exact emitBatch_notFC b (ht.batches b hb).2 r hrb
  · exact emitBatch_notFC b (ht.iatBatches b hb).2 r hrb

/-- **a transfer cut short before the file control record** — at a record boundary or inside a record (`tail`: whatever
the cut record looks like and however it validates, as long as it is not a file control record) — is rejected -/
theorem read_truncated_body (t : Tree) (ht : WFTree t) (j : Nat) (vs : List Bits) (tail : List (Rec × Bits))
    (htail : ∀ r ∈ tail, r.1.isFC = false) :
    Err.missingControl ∈ (read (((body t).take j).zip vs ++ tail)).errs := by
  apply read_without_control
  intro r hr
  rcases List.mem_append.1 hr with h | h
  · exact body_notFC t ht r.1 (List.mem_of_mem_take (List.of_mem_zip h).1)
  · exact htail r h

/-! ## acceptance only grows with the validation outcomes (C15 at the level of the Reader) -/

theorem run_errs (s : St) (rs : List (Rec × Bits)) : s.errs <+: (run s rs).errs :=
  List.foldlRecOn rs _ (motive := fun t => s.errs <+: t.errs) (List.prefix_refl _)
    fun t h r _ => h.trans (step_errs t r.1 r.2)

/-- a run without errors is the same run when more validations succeed -/
theorem run_mono : ∀ (rs : List Rec) (s : St) (vs ws : List Bits), s.errs = [] → vs.length = rs.length →
    ws.length = rs.length → (∀ i (h1 : i < vs.length) (h2 : i < ws.length), Bits.le vs[i] ws[i]) →
    (run s (rs.zip vs)).errs = [] → run s (rs.zip ws) = run s (rs.zip vs) := by
  intro rs
  induction rs with
  | nil => intros; rfl
  | cons r rs ih =>
    intro s vs ws hs hv hw hle herr
    obtain ⟨v, vs, rfl⟩ := List.exists_cons_of_length_eq_add_one hv
    obtain ⟨w, ws, rfl⟩ := List.exists_cons_of_length_eq_add_one hw
    rw [List.zip_cons_cons, run_cons] at herr ⊢
    -- the first step raised no error, since the whole run ends with none
    have hno : (step s r v).errs = s.errs := by
      rw [hs, ← List.prefix_nil, ← herr]
      exact run_errs _ _
    rw [List.zip_cons_cons, run_cons, step_mono s r v w (hle 0 (Nat.zero_lt_succ _) (Nat.zero_lt_succ _)) hno]
    exact ih _ vs ws (hno.trans hs) (Nat.succ.inj hv) (Nat.succ.inj hw)
      (fun i h1 h2 => hle (i + 1) (Nat.succ_lt_succ h1) (Nat.succ_lt_succ h2)) herr

theorem guard_eq_nil {c a : Bool} {e : Err} : (if c && !a then [e] else []) = [] ↔ (c = true → a = true) := by
  cases c <;> cases a <;> simp

theorem finish_mono (a b a' b' : Bool) (ha : a = true → a' = true) (hb : b = true → b' = true) (s : St)
    (h : (finish a b s).errs = []) : (finish a' b' s).errs = [] := by
  simp only [finish_errs, List.append_eq_nil_iff, guard_eq_nil] at h ⊢
  exact ⟨h.1, fun x => ha (h.2.1 x), fun x => hb (h.2.2 x)⟩

end Ach.ReaderSM
