import Ach.Model.Merge
/-!
# `MergeFiles`: what `addFiles` accumulates and what `convertToFiles` writes from it (C08, C09)

`addFiles` is a fold of `addFile`, over `addBatches`, over `placeAll`, over `place`: a fact about the accumulated state is
proved of `place`, along its three cases, and lifted through the folds — the multiset of (route, header, entry) triples
by `foldl_perm`, a property of a route's batch list (sorted batches, `Spill`) by `addFiles_batches`.
`convertToFiles` is read through the equations `stepEntry_eq`, `closeBatch_of_nil`/`_of_ne`, `closeFile_eq`, the test of
`stepEntry` as `Fits`. Three facts are carried through its two loops: one invariant for the line limit and the dollar
limit together (`Outer` between two batches, `Inner` inside one), the entries held (`csEntries`), and `NoSplit`: while
what is still to come fits under both limits, no file is closed.
-/
namespace Ach.Merge

theorem foldl_perm {α β γ : Type} {T : β → List γ} {g : α → List γ} {step : β → α → β}
    (h : ∀ a x, (T (step a x)).Perm (g x ++ T a)) (xs : List α) (a : β) :
    (T (xs.foldl step a)).Perm (xs.flatMap g ++ T a) := by
  induction xs generalizing a with
  | nil => exact .refl _
  | cons x xs ih =>
    rw [List.foldl_cons, List.flatMap_cons, List.append_assoc]
    exact (ih _).trans (((h a x).append_left _).trans (List.perm_append_comm_assoc ..))

theorem foldl_append {α β γ : Type} {T : β → List γ} {g : α → List γ} {step : β → α → β}
    (h : ∀ a x, T (step a x) = T a ++ g x) (xs : List α) (a : β) :
    T (xs.foldl step a) = T a ++ xs.flatMap g := by
  induction xs generalizing a with
  | nil => simp
  | cons x xs ih => rw [List.foldl_cons, ih, h, List.flatMap_cons, List.append_assoc]

@[simp] theorem contains_cons (t : Nat) (x : Entry) (xs : List Entry) :
    contains t (x :: xs) = (decide (x.trace = t) || contains t xs) := rfl

theorem insertSorted_perm (e : Entry) (es : List Entry) (h : contains e.trace es = false) :
    (insertSorted e es).Perm (e :: es) := by
  -- the cases of `insertSorted`: no entry left, `e` goes before the head, in its place, or into the tail
  fun_induction insertSorted e es with
  | case1 => exact .refl _
  | case2 => exact .refl _
  | case3 x xs _ heq =>
    rw [contains_cons, heq, decide_eq_true rfl] at h
    exact nomatch h
  | case4 x xs _ _ ih =>
    rw [contains_cons, Bool.or_eq_false_iff] at h
    exact ((ih h.2).cons x).trans (.swap e x xs)

def batchTriples (r : Route) (bs : List OutBatch) : List (Route × HKey × Entry) :=
  bs.flatMap (fun b => b.entries.map (fun e => (r, b.key, e)))

theorem place_perm (r : Route) (k : HKey) (e : Entry) (bs : List OutBatch) :
    (batchTriples r (place k e bs)).Perm ((r, k, e) :: batchTriples r bs) := by
  -- the cases of `place`: no batch left (a new one is appended), the head batch takes the entry, or is passed over
  fun_induction place k e bs with
  | case1 => exact .refl _
  | case2 b bs hc =>
    rw [Bool.and_eq_true, decide_eq_true_eq, Bool.not_eq_true'] at hc
    obtain ⟨rfl, hnc⟩ := hc
    exact ((insertSorted_perm e b.entries hnc).map _).append_right _
  | case3 b bs _ ih => exact (ih.append_left _).trans List.perm_middle

theorem placeAll_perm (r : Route) (k : HKey) (es : List Entry) (bs : List OutBatch) :
    (batchTriples r (placeAll k es bs)).Perm (es.map (fun e => (r, k, e)) ++ batchTriples r bs) := by
  rw [List.map_eq_flatMap]
  exact foldl_perm (fun bs e => place_perm r k e bs) es bs

def inBatchTriples (r : Route) (ibs : List InBatch) : List (Route × HKey × Entry) :=
  ibs.flatMap (fun b => b.entries.map (fun e => (r, b.key, e)))

theorem addBatches_perm (r : Route) (ibs : List InBatch) (bs : List OutBatch) :
    (batchTriples r (addBatches ibs bs)).Perm (inBatchTriples r ibs ++ batchTriples r bs) :=
  foldl_perm (fun bs ib => placeAll_perm r ib.key ib.entries bs) ibs bs

theorem triplesOut_cons (o : OutFile) (os : List OutFile) :
    triplesOut (o :: os) = batchTriples o.route o.batches ++ triplesOut os := List.flatMap_cons

theorem addFile_perm (f : InFile) (st : List OutFile) :
    (triplesOut (addFile f st)).Perm (inBatchTriples f.route f.batches ++ triplesOut st) := by
  -- the cases of `addFile`: no out-file left (a new one is appended), the head has the route, or is passed over
  fun_induction addFile f st with
  | case1 => simpa [triplesOut, batchTriples] using addBatches_perm f.route f.batches []
  | case2 o os hr =>
    rw [triplesOut_cons, triplesOut_cons, ← hr, ← List.append_assoc]
    exact (addBatches_perm ..).append_right _
  | case3 o os _ ih =>
    rw [triplesOut_cons, triplesOut_cons]
    exact (ih.append_left _).trans (List.perm_append_comm_assoc ..)

/-- **merge_conserves**: after adding any list of files to any accumulated state, the multiset of
(route, header key, entry) triples is exactly the old one plus the inputs' — nothing lost, duplicated or invented -/
theorem addFiles_perm (fs : List InFile) (st : List OutFile) :
    (triplesOut (addFiles fs st)).Perm (triplesIn fs ++ triplesOut st) :=
  foldl_perm (fun st f => addFile_perm f st) fs st

theorem triplesIn_perm {fs fs' : List InFile} (h : fs.Perm fs') : (triplesIn fs).Perm (triplesIn fs') :=
  h.flatMap_right _

def routesDistinct (st : List OutFile) : Prop := (st.map (·.route)).Nodup

theorem addFile_routes (f : InFile) (st : List OutFile) :
    (addFile f st).map (·.route) = st.map (·.route) ∨
      f.route ∉ st.map (·.route) ∧ (addFile f st).map (·.route) = st.map (·.route) ++ [f.route] := by
  fun_induction addFile f st with
  | case1 => exact .inr ⟨List.not_mem_nil, rfl⟩
  | case2 => exact .inl rfl
  | case3 o os hr ih =>
    rcases ih with h | ⟨hn, h⟩
    · exact .inl (congrArg (o.route :: ·) h)
    · exact .inr ⟨fun hm => (List.mem_cons.1 hm).elim (hr ∘ Eq.symm) hn, congrArg (o.route :: ·) h⟩

theorem addFile_distinct (f : InFile) (st : List OutFile) (h : routesDistinct st) : routesDistinct (addFile f st) := by
  unfold routesDistinct
  rcases addFile_routes f st with hr | ⟨hn, hr⟩ <;> rw [hr]
  · exact h
  · exact (List.nodup_cons.2 ⟨hn, h⟩).perm (List.perm_append_singleton ..).symm

theorem addFiles_distinct (fs : List InFile) (st : List OutFile) (h : routesDistinct st) : routesDistinct (addFiles fs st) :=
  List.foldlRecOn fs _ h fun st h f _ => addFile_distinct f st h

theorem forall_mem_place {Q : OutBatch → Prop} {k : HKey} {e : Entry} (hnew : Q ⟨k, [e]⟩)
    (hins : ∀ b, b.key = k → Q b → Q ⟨b.key, insertSorted e b.entries⟩) {bs : List OutBatch} (h : ∀ b ∈ bs, Q b) :
    ∀ b ∈ place k e bs, Q b := by
  fun_induction place k e bs with
  | case1 => exact List.forall_mem_singleton.2 hnew
  | case2 y ys hc =>
    rw [List.forall_mem_cons] at h ⊢
    exact ⟨hins y (of_decide_eq_true (Bool.and_eq_true_iff.1 hc).1) h.1, h.2⟩
  | case3 y ys _ ih =>
    rw [List.forall_mem_cons] at h ⊢
    exact ⟨h.1, ih h.2⟩

theorem addFiles_batches {P : List OutBatch → Prop} (nil : P []) (step : ∀ k e bs, P bs → P (place k e bs))
    (fs : List InFile) (st : List OutFile) (hst : ∀ o ∈ st, P o.batches) : ∀ o ∈ addFiles fs st, P o.batches := by
  have hadd (ibs : List InBatch) (bs : List OutBatch) (h : P bs) : P (addBatches ibs bs) :=
    List.foldlRecOn ibs _ h fun _ h ib _ => List.foldlRecOn ib.entries _ h fun bs h e _ => step ib.key e bs h
  have hfile (f : InFile) (st : List OutFile) (h : ∀ o ∈ st, P o.batches) : ∀ o ∈ addFile f st, P o.batches := by
    fun_induction addFile f st with
    | case1 => exact List.forall_mem_singleton.2 (hadd _ _ nil)
    | case2 o os =>
      rw [List.forall_mem_cons] at h ⊢
      exact ⟨hadd _ _ h.1, h.2⟩
    | case3 o os _ ih =>
      rw [List.forall_mem_cons] at h ⊢
      exact ⟨h.1, ih h.2⟩
  exact List.foldlRecOn fs _ hst fun st h f _ => hfile f st h

def StrictAsc : List Entry → Prop
  | [] => True
  | [_] => True
  | a :: b :: rest => a.trace < b.trace ∧ StrictAsc (b :: rest)

theorem strictAsc_tail {a : Entry} {l : List Entry} (h : StrictAsc (a :: l)) : StrictAsc l := by
  cases l with
  | nil => trivial
  | cons b r => exact h.2

theorem strictAsc_iff_pairwise {l : List Entry} : StrictAsc l ↔ l.Pairwise (·.trace < ·.trace) := by
  induction l with
  | nil => exact ⟨fun _ => .nil, fun _ => trivial⟩
  | cons a l ih =>
    cases l with
    | nil => exact ⟨fun _ => List.pairwise_singleton .., fun _ => trivial⟩
    | cons b l =>
      rw [StrictAsc, ih, List.pairwise_cons (a := a), List.pairwise_cons, List.forall_mem_cons]
      exact ⟨fun h => ⟨⟨h.1, fun x hx => Nat.lt_trans h.1 (h.2.1 x hx)⟩, h.2⟩, fun h => ⟨h.1.1, h.2⟩⟩

theorem mem_insertSorted {x e : Entry} {es : List Entry} (h : x ∈ insertSorted e es) : x = e ∨ x ∈ es := by
  fun_induction insertSorted e es with
  | case1 => exact .inl (List.mem_singleton.1 h)
  | case2 => exact List.mem_cons.1 h
  | case3 y ys => exact (List.mem_cons.1 h).imp_right (List.mem_cons_of_mem y)
  | case4 y ys _ _ ih =>
    rcases List.mem_cons.1 h with rfl | h
    · exact .inr List.mem_cons_self
    · exact (ih h).imp_right (List.mem_cons_of_mem y)

theorem insertSorted_sorted (e : Entry) (es : List Entry) (h : StrictAsc es) : StrictAsc (insertSorted e es) := by
  rw [strictAsc_iff_pairwise] at h ⊢
  fun_induction insertSorted e es with
  | case1 => exact List.pairwise_singleton ..
  | case2 x xs hlt =>
    have hx := (List.pairwise_cons.1 h).1
    exact List.pairwise_cons.2 ⟨List.forall_mem_cons.2 ⟨hlt, fun y hy => Nat.lt_trans hlt (hx y hy)⟩, h⟩
  | case3 x xs _ heq =>
    obtain ⟨hx, hxs⟩ := List.pairwise_cons.1 h
    exact List.pairwise_cons.2 ⟨heq ▸ hx, hxs⟩
  | case4 x xs hlt hne ih =>
    obtain ⟨hx, hxs⟩ := List.pairwise_cons.1 h
    refine List.pairwise_cons.2 ⟨fun y hy => ?_, ih hxs⟩
    rcases mem_insertSorted hy with rfl | hy
    · exact Nat.lt_of_le_of_ne (Nat.le_of_not_lt hlt) (Ne.symm hne)
    · exact hx y hy

theorem place_sorted (k : HKey) (e : Entry) (bs : List OutBatch) (h : ∀ b ∈ bs, StrictAsc b.entries) :
    ∀ b ∈ place k e bs, StrictAsc b.entries :=
  forall_mem_place (Q := fun b => StrictAsc b.entries) trivial (fun b _ => insertSorted_sorted e b.entries) h

/-- a later batch with the same header only holds entries whose trace number the earlier batch already has -/
def Spill (a b : OutBatch) : Prop := a.key = b.key → ∀ x ∈ b.entries, contains x.trace a.entries = true

theorem contains_insertSorted (t : Nat) (e : Entry) (es : List Entry) :
    contains t (insertSorted e es) = (decide (e.trace = t) || contains t es) := by
  fun_induction insertSorted e es with
  | case1 => rfl
  | case2 => rfl
  | case3 x xs _ heq => rw [contains_cons, contains_cons, ← heq, Bool.or_self_left]
  | case4 x xs _ _ ih => rw [contains_cons, ih, contains_cons, Bool.or_left_comm]

/-- what `place` can put after a batch `a` that did not take the entry -/
theorem place_spill {k : HKey} {e : Entry} {a : OutBatch} (hk : a.key = k → contains e.trace a.entries = true)
    {bs : List OutBatch} (h : ∀ b ∈ bs, Spill a b) : ∀ b ∈ place k e bs, Spill a b := by
  refine forall_mem_place (fun hkey x hx => ?_) (fun b hb hs hkey x hx => ?_) h
  · rw [List.mem_singleton.1 hx]
    exact hk hkey
  · rcases mem_insertSorted hx with rfl | hx
    · exact hk (hkey.trans hb)
    · exact hs hkey x hx

theorem place_pairwise (k : HKey) (e : Entry) (bs : List OutBatch) (h : bs.Pairwise Spill) :
    (place k e bs).Pairwise Spill := by
  fun_induction place k e bs with
  | case1 => exact List.pairwise_singleton ..
  | case2 y ys =>
    -- `y` takes the entry: it holds every trace it held before
    obtain ⟨hy, hys⟩ := List.pairwise_cons.1 h
    refine List.pairwise_cons.2 ⟨fun b hb hkey x hx => ?_, hys⟩
    rw [contains_insertSorted, hy b hb hkey x hx, Bool.or_true]
  | case3 y ys hc ih =>
    obtain ⟨hy, hys⟩ := List.pairwise_cons.1 h
    refine List.pairwise_cons.2 ⟨place_spill (fun hkey => ?_) hy, ih hys⟩
    simpa [hkey] using hc

def sumLines (es : List Entry) : Nat := (es.map (·.lines)).sum
def sumAmt (es : List Entry) : Int := (es.map (·.amount)).sum

@[simp] theorem sumLines_nil : sumLines [] = 0 := rfl
@[simp] theorem sumLines_cons (e : Entry) (es : List Entry) : sumLines (e :: es) = e.lines + sumLines es := rfl
@[simp] theorem sumAmt_nil : sumAmt [] = 0 := rfl
@[simp] theorem sumAmt_cons (e : Entry) (es : List Entry) : sumAmt (e :: es) = e.amount + sumAmt es := rfl

theorem sumLines_append (a b : List Entry) : sumLines (a ++ b) = sumLines a + sumLines b := by
  simp [sumLines]

theorem sumAmt_append (a b : List Entry) : sumAmt (a ++ b) = sumAmt a + sumAmt b := by
  simp [sumAmt, List.sum_append]

theorem wfileEntries_append (a b : WFile) : wfileEntries (a ++ b) = wfileEntries a ++ wfileEntries b := by
  simp [wfileEntries]

theorem wfileLines_eq (f : WFile) : wfileLines f = 2 + (f.map (fun b => 2 + sumLines b.2)).sum := rfl

theorem wfileDollars_eq (f : WFile) : wfileDollars f = sumAmt (wfileEntries f) := by
  rw [wfileDollars, sumAmt, List.sum_eq_foldl, List.foldl_map]

theorem wfileEntries_snoc (f : WFile) (k : HKey) (es : List Entry) :
    wfileEntries (f ++ [(k, es)]) = wfileEntries f ++ es := by
  rw [wfileEntries_append]; exact congrArg _ (List.append_nil es)

theorem wfileLines_snoc (f : WFile) (k : HKey) (es : List Entry) :
    wfileLines (f ++ [(k, es)]) = wfileLines f + (2 + sumLines es) := by
  simp only [wfileLines_eq, List.map_append, List.sum_append_nat, List.map_cons, List.map_nil, List.sum_cons,
    List.sum_nil, Nat.add_zero, Nat.add_assoc]

theorem wfileDollars_snoc (f : WFile) (k : HKey) (es : List Entry) :
    wfileDollars (f ++ [(k, es)]) = wfileDollars f + sumAmt es := by
  rw [wfileDollars_eq, wfileDollars_eq, wfileEntries_snoc, sumAmt_append]

theorem wfileLines_push (f : WFile) (k : HKey) (es : List Entry) (e : Entry) :
    wfileLines (f ++ [(k, es ++ [e])]) = wfileLines (f ++ [(k, es)]) + e.lines := by
  simp only [wfileLines_snoc, sumLines_append, sumLines_cons, sumLines_nil, Nat.add_zero, Nat.add_assoc]

theorem wfileDollars_push (f : WFile) (k : HKey) (es : List Entry) (e : Entry) :
    wfileDollars (f ++ [(k, es ++ [e])]) = wfileDollars (f ++ [(k, es)]) + e.amount := by
  simp only [wfileDollars_snoc, sumAmt_append, sumAmt_cons, sumAmt_nil, Int.add_zero, Int.add_assoc]

theorem closeBatch_of_nil (k : HKey) {s : CState} (h : s.batch = []) : closeBatch k s = s := by
  simp [closeBatch, h]

theorem closeBatch_of_ne (k : HKey) {s : CState} (h : s.batch ≠ []) :
    closeBatch k s = { s with file := s.file ++ [(k, s.batch)], batch := [] } := by
  simp [closeBatch, h]

@[simp] theorem closeBatch_out (k : HKey) (s : CState) : (closeBatch k s).out = s.out := by
  unfold closeBatch; split <;> rfl

@[simp] theorem closeBatch_batch (k : HKey) (s : CState) : (closeBatch k s).batch = [] := by
  by_cases hb : s.batch = []
  · rwa [closeBatch_of_nil k hb]
  · rw [closeBatch_of_ne k hb]

theorem closeFile_eq (s : CState) :
    closeFile s = { s with out := s.out ++ (if s.file = [] then [] else [s.file]), file := [] } := by
  obtain ⟨out, file, batch, lines, dollars⟩ := s
  cases file <;> simp [closeFile]

@[simp] theorem closeFile_file (s : CState) : (closeFile s).file = [] := by rw [closeFile_eq]
@[simp] theorem closeFile_batch (s : CState) : (closeFile s).batch = s.batch := by rw [closeFile_eq]

/-- what `stepEntry` does after its overflow test -/
def push (s : CState) (e : Entry) : CState :=
  { s with batch := s.batch ++ [e], lines := s.lines + e.lines, dollars := s.dollars + e.amount }

theorem closeBatch_push (k : HKey) (s : CState) (e : Entry) :
    closeBatch k (push s e) = { push s e with file := s.file ++ [(k, s.batch ++ [e])], batch := [] } :=
  closeBatch_of_ne k (List.append_ne_nil_of_right_ne_nil _ (List.cons_ne_nil e []))

/-- `l` lines and `d` dollars respect both limits, each of which may be switched off: what `stepEntry` tests -/
abbrev Fits (c : Cond) (l : Nat) (d : Int) : Prop :=
  (c.maxLines = 0 ∨ l ≤ c.maxLines) ∧ (c.maxDollars ≤ 0 ∨ d ≤ c.maxDollars)

theorem Fits.mono {c : Cond} {l l' : Nat} {d d' : Int} (h : Fits c l d) (hl : l' ≤ l) (hd : d' ≤ d) : Fits c l' d' :=
  ⟨h.1.imp_right (Nat.le_trans hl), h.2.imp_right (Int.le_trans hd)⟩

theorem overflow_iff_not_fits (c : Cond) (l : Nat) (d : Int) :
    ((c.maxLines > 0 && l > c.maxLines) || (c.maxDollars > 0 && d > c.maxDollars)) = true ↔ ¬Fits c l d := by
  simp only [Bool.or_eq_true, Bool.and_eq_true, decide_eq_true_eq, Classical.not_and_iff_not_or_not, not_or, Nat.not_le,
    Int.not_le, Nat.pos_iff_ne_zero]

/-- `stepEntry` with its test read as a proposition; on overflow it goes on from an empty file with an open batch -/
theorem stepEntry_eq (c : Cond) (k : HKey) (s : CState) (e : Entry) : stepEntry c k s e =
    push (if Fits c (s.lines + e.lines) (s.dollars + e.amount) then s
      else ⟨(closeFile (closeBatch k s)).out, [], [], 4, 0⟩) e := by
  simp only [stepEntry, push, overflow_iff_not_fits, ite_not, closeFile_file, closeFile_batch, closeBatch_batch]

/-- a written file respects the line limit and the dollar limit, or holds a single entry (which alone may exceed them) -/
def Good (c : Cond) (f : WFile) : Prop := Fits c (wfileLines f) (wfileDollars f) ∨ (wfileEntries f).length = 1

def Covers (s : CState) (f : WFile) : Prop := wfileLines f ≤ s.lines ∧ wfileDollars f ≤ s.dollars

theorem covers_push {s : CState} {f : WFile} {k : HKey} {es : List Entry} (h : Covers s (f ++ [(k, es)])) (e : Entry) :
    Covers (push s e) (f ++ [(k, es ++ [e])]) :=
  ⟨wfileLines_push .. ▸ Nat.add_le_add_right h.1 _, wfileDollars_push .. ▸ Int.add_le_add_right h.2 _⟩

structure Outer (c : Cond) (s : CState) : Prop where
  nob : s.batch = []
  out : ∀ f ∈ s.out, Good c f
  cur : s.file ≠ [] → Good c s.file
  cov : Covers s s.file

/-- `cov` counts the header and control of the open batch from the start, also while it has no entry and closing it
adds nothing -/
structure Inner (c : Cond) (k : HKey) (s : CState) : Prop where
  out : ∀ f ∈ s.out, Good c f
  cur : (closeBatch k s).file ≠ [] → Good c (closeBatch k s).file
  cov : Covers s (s.file ++ [(k, s.batch)])

theorem closeFile_good {c : Cond} {s : CState} (ho : ∀ f ∈ s.out, Good c f) (hc : s.file ≠ [] → Good c s.file) :
    ∀ f ∈ (closeFile s).out, Good c f := by
  rw [closeFile_eq]
  refine List.forall_mem_append.2 ⟨ho, ?_⟩
  split
  · exact List.forall_mem_nil _
  · next hne => exact List.forall_mem_singleton.2 (hc hne)

theorem stepEntry_inner {c : Cond} {k : HKey} {s : CState} (e : Entry) (h : Inner c k s) :
    Inner c k (stepEntry c k s e) := by
  rw [stepEntry_eq]
  split
  · next hfit =>
    have hc := covers_push h.cov e
    exact { out := h.out, cov := hc, cur := fun _ => closeBatch_push k s e ▸ .inl (hfit.mono hc.1 hc.2) }
  · -- overflow: the file being assembled is closed; the next one holds the single entry `e`, and 4 and 0 were the
    -- counters of an empty file with an open batch
    exact {
      out := closeFile_good (closeBatch_out k s ▸ h.out) h.cur
      cur := fun _ => closeBatch_push k _ e ▸ .inr rfl
      cov := covers_push (s := ⟨_, [], [], 4, 0⟩) (f := []) (es := []) ⟨Nat.le_refl 4, Int.le_refl 0⟩ e }

theorem closeBatch_outer {c : Cond} {k : HKey} {s : CState} (h : Inner c k s) : Outer c (closeBatch k s) := by
  obtain ⟨ho, hc, hl, hd⟩ := h
  by_cases hb : s.batch = []
  · rw [closeBatch_of_nil k hb] at hc ⊢
    rw [hb, wfileLines_snoc] at hl
    rw [hb, wfileDollars_snoc, sumAmt_nil, Int.add_zero] at hd
    exact ⟨hb, ho, hc, Nat.le_of_add_right_le hl, hd⟩
  · rw [closeBatch_of_ne k hb] at hc ⊢
    exact ⟨rfl, ho, hc, hl, hd⟩

theorem stepBatch_outer {c : Cond} {s : CState} (b : OutBatch) (h : Outer c s) : Outer c (stepBatch c s b) := by
  have h0 : Inner c b.key { s with lines := s.lines + 2 } := {
    out := h.out
    cur := by
      rw [closeBatch_of_nil]
      · exact h.cur
      · exact h.nob
    cov := by
      simp only [Covers, h.nob, wfileLines_snoc, wfileDollars_snoc, sumLines_nil, sumAmt_nil, Int.add_zero]
      exact ⟨Nat.add_le_add_right h.cov.1 2, h.cov.2⟩ }
  exact closeBatch_outer (List.foldlRecOn b.entries _ h0 fun _ h e _ => stepEntry_inner e h)

theorem convert_outer (c : Cond) (bs : List OutBatch) : Outer c (bs.foldl (stepBatch c) ⟨[], [], [], 2, 0⟩) :=
  List.foldlRecOn bs _ ⟨rfl, List.forall_mem_nil _, fun h => absurd rfl h, Nat.le_refl 2, Int.le_refl 0⟩
    fun _ h b _ => stepBatch_outer b h

/-- **merge_lines_bounded**, **merge_dollars_bounded**: every file written for a route has at most `MaxLines` records
(when that is not 0; file header and control, batch headers and controls, entries and addenda) and entry amounts that
sum to at most `MaxDollarAmount` (when that is positive — `convertToFiles` forces 0 and anything above the Nacha limit
to the Nacha limit), unless it holds a single entry -/
theorem convertOne_good (c : Cond) (o : OutFile) : ∀ f ∈ convertOne c o, Good c f :=
  have h := convert_outer c o.batches
  closeFile_good h.out h.cur

def csEntries (s : CState) : List Entry := s.out.flatMap wfileEntries ++ wfileEntries s.file ++ s.batch

theorem closeBatch_entries (k : HKey) (s : CState) : csEntries (closeBatch k s) = csEntries s := by
  by_cases hb : s.batch = []
  · rw [closeBatch_of_nil k hb]
  · simp [closeBatch_of_ne k hb, csEntries, wfileEntries_snoc]

theorem closeFile_entries (s : CState) : csEntries (closeFile s) = csEntries s := by
  rw [closeFile_eq]
  by_cases hf : s.file = [] <;> simp [csEntries, hf, wfileEntries]

theorem stepEntry_entries (c : Cond) (k : HKey) (s : CState) (e : Entry) :
    csEntries (stepEntry c k s e) = csEntries s ++ [e] := by
  have hpush (t : CState) : csEntries (push t e) = csEntries t ++ [e] := (List.append_assoc ..).symm
  rw [stepEntry_eq, hpush]
  split
  · rfl
  · -- the state it goes on from holds what `closeFile (closeBatch k s)` has filed
    have h : csEntries ⟨(closeFile (closeBatch k s)).out, [], [], 4, 0⟩ = csEntries (closeFile (closeBatch k s)) := by
      simp [csEntries]
    rw [h, closeFile_entries, closeBatch_entries]

theorem stepBatch_entries (c : Cond) (s : CState) (b : OutBatch) :
    csEntries (stepBatch c s b) = csEntries s ++ b.entries := by
  rw [stepBatch, closeBatch_entries, foldl_append (g := fun e => [e]) (stepEntry_entries c b.key),
    List.flatMap_singleton']
  rfl  -- `csEntries` does not look at the counters

/-- **convert_conserves**: the files written for one route hold exactly that route's entries, in the same order
(batches in order, each batch's entries in trace order) — every entry ends up in exactly one output batch -/
theorem convertOne_entries (c : Cond) (o : OutFile) :
    (convertOne c o).flatMap wfileEntries = o.batches.flatMap (·.entries) := by
  have h := closeFile_entries (o.batches.foldl (stepBatch c) ⟨[], [], [], 2, 0⟩)
  rw [foldl_append (stepBatch_entries c)] at h
  -- between two batches no batch is open (`Outer.nob`), and after `closeFile` no file: all entries are in `out`
  simpa [convertOne, csEntries, wfileEntries, (convert_outer c o.batches).nob] using h

/-- what `currentFileLineCount` reaches if nothing overflows: 2, plus 2 per accumulated batch (also one without
entries), plus the lines of every entry -/
def countedLines (bs : List OutBatch) : Nat := (bs.map (fun b => 2 + sumLines b.entries)).sum
def totalAmt (bs : List OutBatch) : Int := (bs.map (fun b => sumAmt b.entries)).sum

/-- nothing has been split off so far and what is still to come (`rl` lines, `ra` dollars) fits under both limits:
`lines` and `dollars` together are `Fits c (s.lines + rl) (s.dollars + ra)` -/
structure NoSplit (c : Cond) (s : CState) (rl : Nat) (ra : Int) : Prop where
  out : s.out = []
  lines : c.maxLines = 0 ∨ s.lines + rl ≤ c.maxLines
  dollars : c.maxDollars ≤ 0 ∨ s.dollars + ra ≤ c.maxDollars

theorem stepEntry_nosplit {c : Cond} {s : CState} {e : Entry} {rl : Nat} {ra : Int} (k : HKey) (hra : 0 ≤ ra)
    (h : NoSplit c s (e.lines + rl) (e.amount + ra)) : NoSplit c (stepEntry c k s e) rl ra := by
  have hfit : Fits c (s.lines + e.lines) (s.dollars + e.amount) := Fits.mono ⟨h.lines, h.dollars⟩
    (Nat.add_le_add_left (Nat.le_add_right ..) _) (Int.add_le_add_left (Int.le_add_of_nonneg_right hra) _)
  rw [stepEntry_eq, if_pos hfit]
  exact ⟨h.out, by simpa only [push, Nat.add_assoc] using h.lines, by simpa only [push, Int.add_assoc] using h.dollars⟩

theorem sum_nonneg {l : List Int} (h : ∀ x ∈ l, 0 ≤ x) : 0 ≤ l.sum := by
  induction l with
  | nil => exact Int.le_refl 0
  | cons x l ih =>
    rw [List.forall_mem_cons] at h
    exact Int.add_nonneg h.1 (ih h.2)

theorem sumAmt_nonneg {es : List Entry} (h : ∀ e ∈ es, 0 ≤ e.amount) : 0 ≤ sumAmt es :=
  sum_nonneg (List.forall_mem_map.2 h)

theorem totalAmt_nonneg {bs : List OutBatch} (h : ∀ b ∈ bs, ∀ e ∈ b.entries, 0 ≤ e.amount) : 0 ≤ totalAmt bs :=
  sum_nonneg (List.forall_mem_map.2 fun b hb => sumAmt_nonneg (h b hb))

theorem foldl_stepEntry_nosplit {c : Cond} {rl : Nat} {ra : Int} (k : HKey) (hra : 0 ≤ ra) (es : List Entry)
    (s : CState) (hes : ∀ e ∈ es, 0 ≤ e.amount) (h : NoSplit c s (sumLines es + rl) (sumAmt es + ra)) :
    NoSplit c (es.foldl (stepEntry c k) s) rl ra := by
  induction es generalizing s with
  | nil => simpa using h
  | cons e es ih =>
    obtain ⟨_, hes⟩ := List.forall_mem_cons.1 hes
    rw [sumLines_cons, sumAmt_cons, Nat.add_assoc, Int.add_assoc] at h
    exact ih _ hes (stepEntry_nosplit k (Int.add_nonneg (sumAmt_nonneg hes) hra) h)

theorem stepBatch_nosplit {c : Cond} {s : CState} {rl : Nat} {ra : Int} (b : OutBatch) (hra : 0 ≤ ra)
    (hb : ∀ e ∈ b.entries, 0 ≤ e.amount) (h : NoSplit c s (2 + sumLines b.entries + rl) (sumAmt b.entries + ra)) :
    NoSplit c (stepBatch c s b) rl ra := by
  have h' := foldl_stepEntry_nosplit (rl := rl) b.key hra b.entries { s with lines := s.lines + 2 } hb
    ⟨h.out, by simpa only [Nat.add_assoc] using h.lines, h.dollars⟩
  unfold stepBatch closeBatch
  split
  · exact h'
  · exact ⟨h'.out, h'.lines, h'.dollars⟩

theorem foldl_stepBatch_nosplit {c : Cond} (bs : List OutBatch) (s : CState)
    (hpos : ∀ b ∈ bs, ∀ e ∈ b.entries, 0 ≤ e.amount) (h : NoSplit c s (countedLines bs) (totalAmt bs)) :
    NoSplit c (bs.foldl (stepBatch c) s) 0 0 := by
  induction bs generalizing s with
  | nil => exact h
  | cons b bs ih =>
    obtain ⟨hb, hbs⟩ := List.forall_mem_cons.1 hpos
    exact ih _ hbs (stepBatch_nosplit b (totalAmt_nonneg hbs) hb h)

/-- **merge_one_file_when_unlimited**: if the route's accumulated batches fit under both limits (as the code counts
lines) and no amount is negative, `convertToFiles` writes at most one file for the route -/
theorem convertOne_single (c : Cond) (o : OutFile) (hpos : ∀ b ∈ o.batches, ∀ e ∈ b.entries, 0 ≤ e.amount)
    (hfit : Fits c (2 + countedLines o.batches) (totalAmt o.batches)) : (convertOne c o).length ≤ 1 := by
  have h := foldl_stepBatch_nosplit o.batches ⟨[], [], [], 2, 0⟩ hpos ⟨rfl, hfit.1, (Int.zero_add _).symm ▸ hfit.2⟩
  rw [convertOne, closeFile_eq, h.out]
  split
  · exact Nat.zero_le 1
  · exact Nat.le_refl 1

end Ach.Merge
