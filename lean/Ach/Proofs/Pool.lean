import Ach.Model.Pool
/-!
# Proofs about the buffer pool LTS (`Ach.Model.Pool`)

Ownership (`Inv`): a step of goroutine `t` permutes the buffers `t` holds and the pooled ones among themselves
(`inv_update`), a new buffer counting as pooled (`inv_alloc`).  Simulation (`Sim`): each goroutine's private view
(`view`: the contents of the buffers it holds, and its outputs) evolves exactly as in the reference semantics `seqRun`;
`noninterference` follows with `seqRun_outs`.  Keyed store: the two locality lemmas `repoStep_find_other` and
`repoStep_local`.
-/
namespace Ach.Pool

theorem get_set {α} {l : List α} {t u : Nat} {a x : α} (h : (l.set t a)[u]? = some x) :
    (u = t ∧ x = a) ∨ (u ≠ t ∧ l[u]? = some x) := by
  by_cases e : u = t
  · subst e
    obtain ⟨_, hx⟩ := List.getElem?_eq_some_iff.1 h
    exact .inl ⟨rfl, by rw [← hx, List.getElem_set_self]⟩
  · exact .inr ⟨e, by rwa [List.getElem?_set_ne (Ne.symm e)] at h⟩

section
variable {h : BufId → Bytes} {b x : BufId} {v : Bytes} {l : List BufId}

theorem upd_self : upd h b v b = v := if_pos rfl

theorem upd_ne (hx : x ≠ b) : upd h b v x = h x := if_neg hx

theorem map_upd (hb : b ∉ l) : l.map (upd h b v) = l.map h :=
  List.map_congr_left fun _ hx => upd_ne (ne_of_mem_of_not_mem hx hb)

/-- writing to a buffer that is not pooled, or emptying any buffer, leaves the pooled buffers empty -/
theorem upd_empty (he : ∀ x ∈ l, h x = []) (hv : b ∈ l → v = []) : ∀ x ∈ l, upd h b v x = [] := by
  intro x hx
  by_cases e : x = b
  · rw [e, upd_self]; exact hv (e ▸ hx)
  · rw [upd_ne e]; exact he x hx

end

structure Inv (s : State) : Prop where
  poolNodup : s.pool.Nodup
  poolEmpty : ∀ b ∈ s.pool, s.heap b = []
  poolAlloc : ∀ b ∈ s.pool, b < s.fresh
  heldNodup : ∀ (t : Nat) (th : Thread), s.threads[t]? = some th → th.held.Nodup
  heldAlloc : ∀ (t : Nat) (th : Thread), s.threads[t]? = some th → ∀ b ∈ th.held, b < s.fresh
  heldNotPool : ∀ (t : Nat) (th : Thread), s.threads[t]? = some th → ∀ b ∈ th.held, b ∉ s.pool
  heldDisjoint : ∀ (t u : Nat) (th th' : Thread), s.threads[t]? = some th → s.threads[u]? = some th' → t ≠ u →
    ∀ b ∈ th.held, b ∉ th'.held
  disc : ∀ (t : Nat) (th : Thread), s.threads[t]? = some th → Disciplined th.prog

section
variable {s : State} (hi : Inv s)
include hi

/-- a new, empty buffer might as well be allocated into the pool -/
theorem inv_alloc : Inv ⟨upd s.heap s.fresh [], s.fresh + 1, s.fresh :: s.pool, s.threads⟩ :=
  ⟨List.nodup_cons.2 ⟨fun h => Nat.lt_irrefl _ (hi.poolAlloc _ h), hi.poolNodup⟩,
    List.forall_mem_cons.2 ⟨upd_self, upd_empty hi.poolEmpty fun _ => rfl⟩,
    List.forall_mem_cons.2 ⟨Nat.lt_succ_self _, fun b hb => Nat.lt_succ_of_lt (hi.poolAlloc b hb)⟩,
    hi.heldNodup, fun t th ht b hb => Nat.lt_succ_of_lt (hi.heldAlloc t th ht b hb),
    fun t th ht b hb hp => (List.mem_cons.1 hp).elim (fun e => Nat.lt_irrefl _ (e ▸ hi.heldAlloc t th ht b hb))
      (hi.heldNotPool t th ht b hb),
    hi.heldDisjoint, hi.disc⟩

/-- frame lemma: goroutine `t` executes its next op and the shared part changes; `t` and the pool exchange buffers
    among themselves only; everybody else is untouched -/
theorem inv_update {t : Nat} {th th' : Thread} (ht : s.threads[t]? = some th) {op : Op} (hp : th.prog = op :: th'.prog)
    {heap' : BufId → Bytes} {pool' : List BufId} (hperm : (th'.held ++ pool').Perm (th.held ++ s.pool))
    (he : ∀ b ∈ pool', heap' b = []) : Inv ⟨heap', s.fresh, pool', setThread s t th'⟩ := by
  obtain ⟨hn1, hn2, hn3⟩ := List.nodup_append.1 <| hperm.nodup_iff.2 <| List.nodup_append.2
    ⟨hi.heldNodup t th ht, hi.poolNodup, fun a ha _ hb e => hi.heldNotPool t th ht a ha (e ▸ hb)⟩
  have old {b} (hb : b ∈ th'.held ++ pool') : b ∈ th.held ∨ b ∈ s.pool := List.mem_append.1 (hperm.subset hb)
  have alloc {b} (hb : b ∈ th'.held ++ pool') : b < s.fresh :=
    (old hb).elim (hi.heldAlloc t th ht b) (hi.poolAlloc b)
  have other {u x b} (hu : u ≠ t) (hx : s.threads[u]? = some x) (hbx : b ∈ x.held) : b ∉ th'.held ++ pool' :=
    fun hb => (old hb).elim (hi.heldDisjoint u t x th hx ht hu b hbx) (hi.heldNotPool u x hx b hbx)
  refine ⟨hn2, he, fun b h => alloc (List.mem_append_right _ h), ?_, ?_, ?_, ?_, ?_⟩
  · intro u x hx
    obtain ⟨-, rfl⟩ | ⟨-, hx'⟩ := get_set hx
    · exact hn1
    · exact hi.heldNodup u x hx'
  · intro u x hx b hbx
    obtain ⟨-, rfl⟩ | ⟨-, hx'⟩ := get_set hx
    · exact alloc (List.mem_append_left _ hbx)
    · exact hi.heldAlloc u x hx' b hbx
  · intro u x hx b hbx hbp
    obtain ⟨-, rfl⟩ | ⟨hu, hx'⟩ := get_set hx
    · exact hn3 b hbx b hbp rfl
    · exact other hu hx' hbx (List.mem_append_right _ hbp)
  · intro u v x y hx hy huv b hbx hby
    obtain ⟨rfl, rfl⟩ | ⟨hu, hx'⟩ := get_set hx <;> obtain ⟨rfl, rfl⟩ | ⟨hv, hy'⟩ := get_set hy
    · exact huv rfl
    · exact other hv hy' hby (List.mem_append_left _ hbx)
    · exact other hu hx' hbx (List.mem_append_left _ hby)
    · exact hi.heldDisjoint u v x y hx' hy' huv b hbx hby
  · intro u x hx
    obtain ⟨-, rfl⟩ | ⟨-, hx'⟩ := get_set hx
    · exact fun h => hi.disc t th ht (hp ▸ List.mem_cons_of_mem _ h)
    · exact hi.disc u x hx'

end

theorem inv_step {s s' : State} {l : Label} (hi : Inv s) (hs : Step s l s') : Inv s' := by
  cases hs with
  | drop hb =>
    exact ⟨hi.poolNodup.erase _, fun x hx => hi.poolEmpty x (List.mem_of_mem_erase hx),
      fun x hx => hi.poolAlloc x (List.mem_of_mem_erase hx), hi.heldNodup, hi.heldAlloc,
      fun t th ht x hx hp => hi.heldNotPool t th ht x hx (List.mem_of_mem_erase hp), hi.heldDisjoint, hi.disc⟩
  | putKeep ht hp => exact absurd (hp ▸ List.mem_cons_self) (hi.disc _ _ ht)
  | getNew ht hp =>
    exact inv_update (inv_alloc hi) ht hp List.perm_middle.symm (upd_empty hi.poolEmpty fun _ => rfl)
  | getPooled ht hp hb =>
    exact inv_update hi ht hp (((List.perm_cons_erase hb).append_left _).trans List.perm_middle).symm
      fun x hx => hi.poolEmpty x (List.mem_of_mem_erase hx)
  | write ht hp hh | reset ht hp hh =>
    exact inv_update hi ht hp (.refl _)
      (upd_empty hi.poolEmpty fun h => absurd h (hi.heldNotPool _ _ ht _ (hh ▸ List.mem_cons_self)))
  | emit ht hp hh | skip ht hp _ hh => exact inv_update hi ht hp (by rw [hh]) hi.poolEmpty
  | put ht hp hh =>
    exact inv_update hi ht hp (by rw [hh]; exact List.perm_middle)
      (List.forall_mem_cons.2 ⟨upd_self, upd_empty hi.poolEmpty fun _ => rfl⟩)

theorem inv_run {s s' : State} {ls : List Label} (hi : Inv s) (hr : Run s ls s') : Inv s' := by
  induction hr with
  | nil => exact hi
  | cons hs _ ih => exact ih (inv_step hi hs)

theorem init_thread {progs : List (List Op)} {t : Nat} {th : Thread} (ht : (init progs).threads[t]? = some th) :
    ∃ p, progs[t]? = some p ∧ ⟨p, [], []⟩ = th :=
  Option.map_eq_some_iff.1 (List.getElem?_map ▸ ht)

theorem inv_init {progs : List (List Op)} (hd : ∀ p ∈ progs, Disciplined p) : Inv (init progs) := by
  have held (t : Nat) (th : Thread) (ht : (init progs).threads[t]? = some th) : th.held = [] := by
    obtain ⟨p, -, rfl⟩ := init_thread ht; rfl
  refine ⟨.nil, nofun, nofun, fun t th ht => held t th ht ▸ .nil, fun t th ht => held t th ht ▸ nofun,
    fun t th ht => held t th ht ▸ nofun, fun t _ th _ ht _ _ => held t th ht ▸ nofun, fun t th ht => ?_⟩
  obtain ⟨p, hp, rfl⟩ := init_thread ht
  exact hd p (List.mem_of_getElem? hp)

def view (h : BufId → Bytes) (th : Thread) : Local := ⟨th.held.map h, th.outs⟩

/-- the private view of every goroutine, continued sequentially, ends where its program run alone ends -/
def Sim (progs : List (List Op)) (s : State) : Prop :=
  ∀ (t : Nat) (th : Thread), s.threads[t]? = some th →
    ∃ p, progs[t]? = some p ∧ seqRun (view s.heap th) th.prog = seqRun ⟨[], []⟩ p

section
variable {progs : List (List Op)} {s s' : State}

theorem sim_init : Sim progs (init progs) := by
  intro t th ht
  obtain ⟨p, hp, rfl⟩ := init_thread ht
  exact ⟨p, hp, rfl⟩

/-- frame lemma: goroutine `t` executes `op` on its own view and the heap changes only at buffers that `t` holds or
    that were not allocated -/
theorem sim_update (hsim : Sim progs s) (hi : Inv s) {t : Nat} {th th' : Thread} (ht : s.threads[t]? = some th)
    {op : Op} (hp : th.prog = op :: th'.prog) {heap' : BufId → Bytes}
    (hown : view heap' th' = seqStep (view s.heap th) op)
    (hframe : ∀ b, b < s.fresh → b ∉ th.held → heap' b = s.heap b) {fresh' : BufId} {pool' : List BufId} :
    Sim progs ⟨heap', fresh', pool', setThread s t th'⟩ := by
  intro u x hx
  obtain ⟨rfl, rfl⟩ | ⟨hu, hx'⟩ := get_set hx
  · obtain ⟨p, hpu, h⟩ := hsim u th ht
    exact ⟨p, hpu, by rw [← h, hp, hown]; rfl⟩
  · obtain ⟨p, hpu, h⟩ := hsim u x hx'
    refine ⟨p, hpu, ?_⟩
    rw [← h, view, view, List.map_congr_left fun b hb =>
      hframe b (hi.heldAlloc u x hx' b hb) (hi.heldDisjoint u t x th hx' ht hu b hb)]

theorem sim_step {l : Label} (hsim : Sim progs s) (hi : Inv s) (hs : Step s l s') : Sim progs s' := by
  cases hs with
  | drop hb => exact hsim
  | putKeep ht hp => exact absurd (hp ▸ List.mem_cons_self) (hi.disc _ _ ht)
  | getNew ht hp =>
    refine sim_update hsim hi ht hp ?_ fun b hb _ => upd_ne (Nat.ne_of_lt hb)
    rw [view, List.map_cons, upd_self, map_upd fun h => Nat.lt_irrefl _ (hi.heldAlloc _ _ ht _ h)]; rfl
  | getPooled ht hp hb =>
    exact sim_update hsim hi ht hp (by rw [view, List.map_cons, hi.poolEmpty _ hb]; rfl) fun _ _ _ => rfl
  | write ht hp hh | reset ht hp hh | put ht hp hh =>
    -- the heap changes at the top buffer `b`: nobody else holds it, and it is nowhere else in `t`'s stack
    refine sim_update hsim hi ht hp ?_ fun x _ hx => upd_ne fun e => hx (e ▸ hh ▸ List.mem_cons_self)
    simp only [view, hh, List.map_cons, upd_self, map_upd (List.nodup_cons.1 (hh ▸ hi.heldNodup _ _ ht)).1, seqStep,
      List.tail_cons]
  | emit ht hp hh => exact sim_update hsim hi ht hp (by rw [view, view, hh]; rfl) fun _ _ _ => rfl
  | @skip _ _ op _ ht hp hne hh =>
    refine sim_update hsim hi ht hp ?_ fun _ _ _ => rfl
    rw [view, view, hh]
    cases op with
    | get => exact absurd rfl hne
    | _ => rfl

theorem sim_run {ls : List Label} (hsim : Sim progs s) (hi : Inv s) (hr : Run s ls s') : Sim progs s' := by
  induction hr with
  | nil => exact hsim
  | cons hs _ ih => exact ih (sim_step hsim hi hs) (inv_step hi hs)

end

theorem seqRun_append (l : Local) (p q : List Op) : seqRun l (p ++ q) = seqRun (seqRun l p) q :=
  List.foldl_append

theorem seqStep_outs (l : Local) (op : Op) : l.outs <+: (seqStep l op).outs := by
  obtain ⟨_ | ⟨b, bs⟩, o⟩ := l <;> cases op <;> simp [seqStep]

theorem seqRun_outs (l : Local) (p : List Op) : l.outs <+: (seqRun l p).outs := by
  induction p generalizing l with
  | nil => exact List.prefix_refl _
  | cons op p ih => exact (seqStep_outs l op).trans (ih _)

theorem seqRun_writes (b : Bytes) (bs o : List Bytes) (cs : List Bytes) :
    seqRun ⟨b :: bs, o⟩ (cs.map Op.write) = ⟨(b ++ cs.flatten) :: bs, o⟩ := by
  induction cs generalizing b with
  | nil => simp [seqRun]
  | cons c cs ih => simpa [seqRun, seqStep] using ih (b ++ c)

theorem seqRun_job (bs o : List Bytes) (j : Job) : seqRun ⟨bs, o⟩ j.ops = ⟨bs, o ++ [renderSeq j]⟩ := by
  show seqRun ⟨[] :: bs, o⟩ (j.chunks.map Op.write ++ [.emit, .put]) = _
  rw [seqRun_append, seqRun_writes]; rfl

theorem seqRun_jobs (bs o : List Bytes) (js : List Job) :
    seqRun ⟨bs, o⟩ (js.flatMap Job.ops) = ⟨bs, o ++ js.map renderSeq⟩ := by
  induction js generalizing o with
  | nil => simp [seqRun]
  | cons j js ih => rw [List.flatMap_cons, seqRun_append, seqRun_job, ih]; simp

theorem seqRun_fields (bs o : List Bytes) (fs : List (List Bytes)) :
    seqRun ⟨[] :: bs, o⟩ (fs.flatMap fun f => f.map Op.write ++ [Op.emit, Op.reset])
      = ⟨[] :: bs, o ++ fs.map List.flatten⟩ := by
  induction fs generalizing o with
  | nil => simp [seqRun]
  | cons f fs ih =>
    rw [List.flatMap_cons, seqRun_append, seqRun_append, seqRun_writes]
    simpa [seqRun, seqStep] using ih (o ++ [f.flatten])

theorem seqRun_parse (bs o : List Bytes) (fs : List (List Bytes)) :
    seqRun ⟨bs, o⟩ (parseOps fs) = ⟨bs, o ++ fs.map List.flatten⟩ := by
  show seqRun ⟨[] :: bs, o⟩ (fs.flatMap (fun f => f.map Op.write ++ [.emit, .reset]) ++ [.put]) = _
  rw [seqRun_append, seqRun_fields]; rfl

theorem noninterference {progs : List (List Op)} (hd : ∀ p ∈ progs, Disciplined p) {ls : List Label} {s : State}
    (hr : Run (init progs) ls s) {t : Nat} {th : Thread} (ht : s.threads[t]? = some th) :
    ∃ p, progs[t]? = some p ∧ (∃ e, seqOutputs p = th.outs ++ e) ∧ (th.prog = [] → th.outs = seqOutputs p) := by
  obtain ⟨p, hp, h⟩ := sim_run sim_init (inv_init hd) hr t th ht
  refine ⟨p, hp, ?_, fun hnil => ?_⟩
  · obtain ⟨e, he⟩ := seqRun_outs (view s.heap th) th.prog
    exact ⟨e, by rw [seqOutputs, ← h, ← he]; rfl⟩
  · rw [seqOutputs, ← h, hnil]; rfl

theorem thread_progress (s : State) {t : Nat} {th : Thread} (ht : s.threads[t]? = some th) (hp : th.prog ≠ []) :
    ∃ l s', Step s l s' ∧ (l = .getNew t ∨ l = .run t) := by
  obtain ⟨op, rest, hp⟩ := List.exists_cons_of_ne_nil hp
  by_cases hg : op = .get
  · subst hg; exact ⟨_, _, .getNew ht hp, .inl rfl⟩
  · cases hh : th.held with
    | nil => exact ⟨_, _, .skip ht hp hg hh, .inr rfl⟩
    | cons b bs =>
      cases op with
      | get => exact absurd rfl hg
      | write c => exact ⟨_, _, .write ht hp hh, .inr rfl⟩
      | emit => exact ⟨_, _, .emit ht hp hh, .inr rfl⟩
      | reset => exact ⟨_, _, .reset ht hp hh, .inr rfl⟩
      | put => exact ⟨_, _, .put ht hp hh, .inr rfl⟩
      | putKeep => exact ⟨_, _, .putKeep ht hp hh, .inr rfl⟩

theorem progress (s : State) {t : Nat} {th : Thread} (ht : s.threads[t]? = some th) (hp : th.prog ≠ []) :
    ∃ l s', Step s l s' :=
  let ⟨l, s', h, _⟩ := thread_progress s ht hp
  ⟨l, s', h⟩

theorem next?_sound {s s' : State} {l : Label} : next? s l = some s' → Step s l s' := by
  fun_cases next? s l <;> intro h <;> cases h
  · exact .drop ‹_›
  · exact .getNew ‹_› rfl
  · exact .getPooled ‹_› rfl ‹_›
  · exact .write ‹_› rfl rfl
  · exact .emit ‹_› rfl rfl
  · exact .reset ‹_› rfl rfl
  · exact .put ‹_› rfl rfl
  · exact .putKeep ‹_› rfl rfl
  · exact .skip ‹_› rfl ‹_› rfl

/-- a goroutine with its program and buffers spelt out, as `next?` matches on it -/
theorem thread_eta {l : List Thread} {t : Nat} {th : Thread} (ht : l[t]? = some th) {p : List Op}
    (hp : th.prog = p) {h : List BufId} (hh : th.held = h) : l[t]? = some ⟨p, h, th.outs⟩ := by
  subst hp hh; exact ht

theorem next?_complete {s s' : State} {l : Label} (h : Step s l s') : next? s l = some s' := by
  cases h with
  | drop hb => exact if_pos hb
  | getNew ht hp => simp only [next?, thread_eta ht hp rfl]
  | getPooled ht hp hb => simp only [next?, thread_eta ht hp rfl, if_pos hb]
  | write ht hp hh | emit ht hp hh | reset ht hp hh | put ht hp hh | putKeep ht hp hh =>
    simp only [next?, thread_eta ht hp hh, hh]
  | @skip _ _ op _ ht hp hne hh =>
    cases op with
    | get => exact absurd rfl hne
    | _ => simp only [next?, thread_eta ht hp hh]

theorem exec_sound {s s' : State} {ls : List Label} : exec s ls = some s' → Run s ls s' := by
  fun_induction exec s ls <;> intro h
  · cases h; exact .nil
  · rename_i hn ih; exact .cons (next?_sound hn) (ih h)
  · cases h

theorem observe_sound {progs : List (List Op)} {ls : List Label} {t : Nat} {p : List Op} {o : List Bytes} :
    observe progs ls t = some (p, o) →
    ∃ s th, Run (init progs) ls s ∧ s.threads[t]? = some th ∧ th.prog = p ∧ th.outs = o := by
  fun_cases observe progs ls t <;> intro h
  · obtain ⟨th, ht, he⟩ := Option.map_eq_some_iff.1 h
    cases he
    exact ⟨_, th, exec_sound ‹_›, ht, rfl, rfl⟩
  · cases h

section Store
variable {V R : Type}

theorem find_del (m : Store V) (k k' : String) : (m.del k).find k' = if k = k' then none else m.find k' := by
  fun_induction Store.del m k <;> grind [Store.find]

theorem find_set (m : Store V) (k k' : String) (v : V) :
    (m.set k v).find k' = if k = k' then some v else m.find k' := by
  rw [Store.set, Store.find, find_del]; split <;> simp [*]

/-- observational equality of stores (a Go map has no order) -/
def Store.Equiv (m m' : Store V) : Prop := ∀ k, m.find k = m'.find k

theorem repoStep_find_other (m : Store V) (a : ROp V R) {k : String} (hk : a.key ≠ k) :
    (repoStep m a).1.find k = m.find k := by
  cases a <;> simp only [repoStep, ROp.key] at hk ⊢
  · split <;> simp [find_set, hk]
  · split <;> rfl
  · simp [find_del, hk]
  · split <;> simp [find_set, hk]

/-- the answer to a request, and the entry it leaves under its key, depend only on the entry under its key -/
theorem repoStep_local {m m' : Store V} (a : ROp V R) (h : m.find a.key = m'.find a.key) :
    (repoStep m a).2 = (repoStep m' a).2 ∧ (repoStep m a).1.find a.key = (repoStep m' a).1.find a.key := by
  cases a <;> simp only [repoStep, ROp.key] at h ⊢
  · rw [h]; split <;> simp [find_set, h]
  · rw [h]; split <;> simp [h]
  · simp [find_del]
  · rw [h]; split <;> simp [find_set, h]
end Store

end Ach.Pool
