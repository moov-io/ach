/-! Choosing a class from two "some element has it" flags, when every element has exactly one of two properties,
is choosing it by "all have the first / all have the second / mixed" (used for the service class in C13). -/
namespace Ach.Proofs

theorem any_all_of_complement {α : Type} {l : List α} {p q : α → Bool} (h : ∀ a ∈ l, q a = !p a) :
    l.any q = !l.all p ∧ l.all q = !l.any p := by
  induction l with
  | nil => exact ⟨rfl, rfl⟩
  | cons a l ih =>
    obtain ⟨h1, h2⟩ := ih fun b hb => h b (List.mem_cons_of_mem _ hb)
    simp only [List.any_cons, List.all_cons, h a List.mem_cons_self, h1, h2, Bool.not_and, Bool.not_or, and_self]

theorem classify_flags {α β : Type} (M D C old : β) (l : List α) (p q : α → Bool) (hne : l ≠ [])
    (hx : ∀ a ∈ l, q a = !p a) :
      (if (l.any p && l.any q) = true then M
       else if l.any q = true then D
       else if l.any p = true then C else old) =
      (if l.all p = true then C else if l.all q = true then D else M) := by
  obtain ⟨h1, h2⟩ := any_all_of_complement hx
  have h3 : l.all p = true → l.any p = true := by
    cases l with
    | nil => exact absurd rfl hne
    | cons a l => simp only [List.all_cons, List.any_cons, Bool.and_eq_true, Bool.or_eq_true]; exact fun h => Or.inl h.1
  rw [h1, h2]
  cases hb : l.all p
  · cases l.any p <;> rfl
  · rw [h3 hb]; rfl

end Ach.Proofs
