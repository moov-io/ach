import Ach.Proofs.GoLiteSteps
/-!
# Accepting runs pass every statement that can only reject

A validator is a sequence of statements.  Statements that can only reject (`rejectOnly`) and leave the declared
variables alone (`calm`) — guards, calls used as `if err := f(); err != nil { return err }`, declarations, loops over such
statements — are *passed* by an accepting run: `accept_drop_calm` peels them off the front (`accept_drop`, `accept_reaches` are
the same for `noAssign` statements), leaving an accepting run of the
rest from locals that only grew, and `accept_passes` says that the `k`-th statement of such a function fell through.
With it a statement deep inside a function (the check-digit comparison of `EntryDetail.Validate`, the header / control
comparisons of `Batch.verify`) is reached without unfolding the statements before it.  `next_passes` is the same for
a function body that fell through.
-/
namespace Ach.GoLite

/-- the statements of a function body (the right-nested `seq` chain flattened) -/
def stmts : Prog → List Prog
  | .seq a b => a :: stmts b
  | p => [p]

theorem stmts_ne_nil (p : Prog) : stmts p ≠ [] := by
  cases p <;> simp [stmts]

theorem seqs_cons_ne (p : Prog) (ps : List Prog) (h : ps ≠ []) : seqs (p :: ps) = .seq p (seqs ps) := by
  cases ps with
  | nil => exact absurd rfl h
  | cons q qs => rfl

theorem seqs_stmts (p : Prog) : seqs (stmts p) = p := by
  induction p with
  | seq a b _ ihb => rw [stmts, seqs_cons_ne _ _ (stmts_ne_nil b), ihb]
  | _ => rfl

theorem seqs_append_tail (ps tail : List Prog) (ht : tail ≠ []) : seqs (ps ++ tail) = seqs (ps ++ [seqs tail]) := by
  induction ps with
  | nil => simp [seqs]
  | cons a ps ih =>
      rw [List.cons_append, List.cons_append, seqs_cons_ne _ _ (by simp [ht]), seqs_cons_ne _ _ (by simp), ih]

theorem accept_seq_left {a b : Prog} {c : Ctx} {l : Locals} (ha : rejectOnly a = true)
    (h : (exec (.seq a b) c l).2 = .ret (.err none)) : (exec a c l).2 = .next := by
  by_cases hn : (exec a c l).2 = .next
  · exact hn
  · rw [exec_seq_stop hn] at h
    exact absurd h (rejectOnly_no_accept a ha c l)

theorem accept_seq {a b : Prog} {c : Ctx} {l : Locals} (ha : rejectOnly a = true) (hn : calm a = true)
    (h : (exec (.seq a b) c l).2 = .ret (.err none)) :
    ∃ pre, (exec b c (pre ++ l)).2 = .ret (.err none) := by
  have hx := accept_seq_left ha h
  obtain ⟨_, pre, hpre⟩ := calm_suffix a hn c l (Or.inl hx)
  exact ⟨pre, by rwa [exec_seq_of_next hx, hpre] at h⟩

theorem accept_drop_calm (c : Ctx) :
    ∀ (ps : List Prog) (rest : Prog) (l : Locals), (∀ p ∈ ps, rejectOnly p = true ∧ calm p = true) →
      (exec (seqs (ps ++ [rest])) c l).2 = .ret (.err none) →
      ∃ pre, (exec rest c (pre ++ l)).2 = .ret (.err none) := by
  intro ps
  induction ps with
  | nil => intro rest l _ h; exact ⟨[], by simpa [seqs] using h⟩
  | cons a ps ih =>
      intro rest l hall h
      rw [List.cons_append, seqs_cons_ne _ _ (by simp)] at h
      have ha := hall a (List.mem_cons_self ..)
      obtain ⟨pre1, h1⟩ := accept_seq ha.1 ha.2 h
      obtain ⟨pre2, h2⟩ := ih rest (pre1 ++ l) (fun p hp => hall p (List.mem_cons_of_mem _ hp)) h1
      exact ⟨pre2 ++ pre1, by rw [List.append_assoc]; exact h2⟩

/-- `f` is `noAssign`, `quiet` (below) or `calm` itself; the Boolean form is the one in which the outline of a translated
function is evaluated. -/
theorem calm_of_all {ps : List Prog} {f : Prog → Bool} (hf : ∀ q, f q = true → calm q = true)
    (hall : ps.all (fun q => rejectOnly q && f q) = true) : ∀ q ∈ ps, rejectOnly q = true ∧ calm q = true := by
  intro q hq
  have := List.all_eq_true.mp hall q hq
  simp only [Bool.and_eq_true] at this
  exact ⟨this.1, hf q this.2⟩

theorem accept_drop (c : Ctx) :
    ∀ (ps : List Prog) (rest : Prog) (l : Locals), (∀ p ∈ ps, rejectOnly p = true ∧ noAssign p = true) →
      (exec (seqs (ps ++ [rest])) c l).2 = .ret (.err none) →
      ∃ pre, (exec rest c (pre ++ l)).2 = .ret (.err none) :=
  fun ps rest l hall => accept_drop_calm c ps rest l (fun p hp => ⟨(hall p hp).1, calm_of_noAssign p (hall p hp).2⟩)

theorem accept_reaches_calm (c : Ctx) (p : Prog) (l : Locals) (ps tail : List Prog) (hs : stmts p = ps ++ tail)
    (ht : tail ≠ []) (hall : ∀ q ∈ ps, rejectOnly q = true ∧ calm q = true)
    (h : (exec p c l).2 = .ret (.err none)) :
    ∃ pre, (exec (seqs tail) c (pre ++ l)).2 = .ret (.err none) := by
  rw [← seqs_stmts p, hs, seqs_append_tail ps tail ht] at h
  exact accept_drop_calm c ps (seqs tail) l hall h

theorem accept_reaches (c : Ctx) (p : Prog) (ps tail : List Prog) (hs : stmts p = ps ++ tail) (ht : tail ≠ [])
    (hall : ps.all (fun q => rejectOnly q && noAssign q) = true)
    (h : (exec p c []).2 = .ret (.err none)) :
    ∃ pre, (exec (seqs tail) c pre).2 = .ret (.err none) := by
  simpa using accept_reaches_calm c p [] ps tail hs ht (calm_of_all calm_of_noAssign hall) h

/-- `q` may be the last statement: an accepting run cannot end in a statement that can only reject. -/
theorem accept_passes {p q : Prog} {k : Nat} {rest : List Prog} (hd : (stmts p).drop k = q :: rest)
    (hall : ∀ s ∈ (stmts p).take k, rejectOnly s = true ∧ calm s = true) (hq : rejectOnly q = true)
    {c : Ctx} {l : Locals} (h : (exec p c l).2 = .ret (.err none)) :
    ∃ pre, (exec q c (pre ++ l)).2 = .next := by
  obtain ⟨pre, hp⟩ := accept_reaches_calm c p l _ _ (List.take_append_drop k _).symm (by simp [hd]) hall h
  rw [hd] at hp
  cases rest with
  | nil => exact absurd hp (rejectOnly_no_accept q hq c _)
  | cons r rs => exact ⟨pre, accept_seq_left hq hp⟩

theorem drop_of_getElem_some {α} {S : List α} {k : Nat} {x : α} (h : S[k]? = some x) : S.drop k = x :: S.drop (k + 1) := by
  obtain ⟨hk, rfl⟩ := List.getElem?_eq_some_iff.mp h
  exact List.drop_eq_getElem_cons hk

theorem accept_passes_nth {p q : Prog} {k : Nat}
    (hall : ∀ s ∈ (stmts p).dropLast, rejectOnly s = true ∧ calm s = true)
    (hq : (stmts p)[k]? = some q) (hk : k + 1 < (stmts p).length)
    {c : Ctx} {l : Locals} (h : (exec p c l).2 = .ret (.err none)) :
    ∃ pre, (exec q c (pre ++ l)).2 = .next := by
  rw [List.dropLast_eq_take] at hall
  have hmem : q ∈ (stmts p).take ((stmts p).length - 1) :=
    List.mem_of_getElem? ((List.getElem?_take_of_lt (by omega)).trans hq)
  exact accept_passes (drop_of_getElem_some hq) (fun s hs => hall s (List.take_subset_take_left _ (by omega) hs))
    (hall q hmem).1 h

/-- The hypothesis is the form in which the outline of a translated function is evaluated once and then used for
each of its statements. -/
theorem run_passes_nth {p : Prog} {n : Nat}
    (hs : (stmts p).length = n + 1 ∧ (stmts p).dropLast.all (fun q => rejectOnly q && noAssign q) = true)
    {c : Ctx} (ha : run c p = .accept) {k : Nat} {q : Prog} (hq : (stmts p)[k]? = some q) (hk : k < n) :
    ∃ pre, (exec q c pre).2 = .next := by
  obtain ⟨pre, h⟩ := accept_passes_nth (calm_of_all calm_of_noAssign hs.2) hq (by rw [hs.1]; omega) (run_accept.mp ha)
  exact ⟨_, h⟩

/-- The call may be the last statement: it can only reject, so an accepting run does not end there. -/
theorem run_passes_check {p : Prog} (hall : (stmts p).dropLast.all (fun q => rejectOnly q && noAssign q) = true)
    {c : Ctx} (ha : run c p = .accept) {k : Nat} {tag : Option String} {f : Prog}
    (hq : (stmts p)[k]? = some (.check tag f)) : (exec f c []).2 = .ret (.err none) := by
  rw [List.dropLast_eq_take] at hall
  have hk := Nat.le_sub_one_of_lt (List.getElem?_eq_some_iff.mp hq).1
  obtain ⟨pre, h⟩ := accept_passes (drop_of_getElem_some hq)
    (fun s hs => calm_of_all calm_of_noAssign hall s (List.take_subset_take_left _ hk hs)) rfl (run_accept.mp ha)
  exact check_passes c _ tag f h

theorem accept_passes_check {p f : Prog} {k : Nat} {rest : List Prog} {tag : Option String}
    (hd : (stmts p).drop k = .check tag f :: rest)
    (hall : ((stmts p).take k).all (fun q => rejectOnly q && noAssign q) = true)
    {c : Ctx} (ha : run c p = .accept) : (exec f c []).2 = .ret (.err none) := by
  obtain ⟨pre, hpass⟩ := accept_passes hd (calm_of_all calm_of_noAssign hall) rfl (run_accept.mp ha)
  exact check_passes c _ tag f hpass

/-- `I` is any property of the locals that each statement hands on when it falls through. -/
theorem next_reaches (c : Ctx) (I : Locals → Prop) :
    ∀ (ps : List Prog) (q : Prog) (rest : List Prog) (l : Locals),
      (∀ p ∈ ps, ∀ l, I l → (exec p c l).2 = .next → I (exec p c l).1) → I l →
      (exec (seqs (ps ++ q :: rest)) c l).2 = .next → ∃ l', I l' ∧ (exec q c l').2 = .next := by
  intro ps
  induction ps with
  | nil =>
      intro q rest l _ hI h
      refine ⟨l, hI, ?_⟩
      cases rest with
      | nil => exact h
      | cons r rs => exact seq_next_left h
  | cons a ps ih =>
      intro q rest l hall hI h
      rw [List.cons_append, seqs_cons_ne _ _ (by simp)] at h
      have ha := seq_next_left h
      rw [exec_seq_of_next ha] at h
      exact ih q rest _ (fun p hp => hall p (List.mem_cons_of_mem _ hp)) (hall a (List.mem_cons_self ..) l hI ha) h

theorem next_passes {p q : Prog} {k : Nat} {rest : List Prog} (hd : (stmts p).drop k = q :: rest) {c : Ctx}
    (I : Locals → Prop) (hall : ∀ s ∈ (stmts p).take k, ∀ l, I l → (exec s c l).2 = .next → I (exec s c l).1)
    {l : Locals} (hI : I l) (h : (exec p c l).2 = .next) : ∃ l', I l' ∧ (exec q c l').2 = .next := by
  rw [← seqs_stmts p, ← List.take_append_drop k (stmts p), hd] at h
  exact next_reaches c I _ q rest l hall hI h

/-- statements that are a scope of their own: what they declare is gone when control leaves them -/
def isScope : Prog → Bool
  | .skip | .ite _ _ _ | .block _ | .check _ _ | .checkOn _ _ _ _ _ | .forEach _ _ _ | .forIdx _ _ _ => true
  | _ => false

theorem falls_exact {l : Locals} {r : Locals × Sig} (hf : Falls l r) (h : passing r.2) :
    (scopeExit l r.1, r.2) = (l, .next) := by
  obtain ⟨h1, pre, h2⟩ := hf h
  rw [h1, h2, scopeExit_append]

theorem calm_scoped (p : Prog) (hs : isScope p = true) (hc : calm p = true) (c : Ctx) (l : Locals) :
    passing (exec p c l).2 → exec p c l = (l, .next) := by
  have stuck : ∀ w, passing (l, Sig.stuck w).2 → (l, Sig.stuck w) = (l, .next) := fun w h => by simp [passing] at h
  have call := fun tag => check_cases (fun r => passing r.2 → r = (l, .next)) tag c l stuck (checkResult_passing tag l)
  have loop := fun v body (hb : calm body = true) =>
    loop_cases (fun r => passing r.2 → r = (l, .next)) v body c l stuck
      (fun mk is h => (iter_falls _ mk v (calm_suffix body hb c) is l h).1)
  cases p with
  | skip => exact fun _ => rfl
  | ite cnd t e =>
      simp only [calm, Bool.and_eq_true] at hc
      simp only [exec]
      split
      · exact falls_exact (calm_suffix t hc.1 c l)
      · exact falls_exact (calm_suffix e hc.2 c l)
      · exact stuck _
  | block q => exact falls_exact (calm_suffix q hc c l)
  | check tag body => exact (call tag).1 body
  | checkOn tag recv params args body => exact (call tag).2 recv params args body
  | forEach v coll body => exact (loop v body hc).1 coll
  | forIdx v coll body => exact (loop v body hc).2 coll
  | _ => cases hs

theorem scopes_pass {p q : Prog} {k : Nat} {rest : List Prog} (hd : (stmts p).drop k = q :: rest)
    (hall : ((stmts p).take k).all (fun s => isScope s && calm s) = true) {c : Ctx} {l : Locals}
    (h : (exec p c l).2 = .next) : (exec q c l).2 = .next := by
  obtain ⟨_, rfl, h'⟩ := next_passes hd (· = l) (fun s hs l1 e hn => by
    have hs := List.all_eq_true.mp hall s hs
    simp only [Bool.and_eq_true] at hs
    rw [calm_scoped s hs.1 hs.2 c l1 (Or.inl hn), e]) rfl h
  exact h'

/-- no assignment at this level: `noAssign`, or a loop over such a body -/
def quiet : Prog → Bool
  | .forEach _ _ b => noAssign b
  | .forIdx _ _ b => noAssign b
  | p => noAssign p

theorem calm_of_quiet (p : Prog) (h : quiet p = true) : calm p = true := by
  cases p with
  | forEach _ _ b => exact calm_of_noAssign b h
  | forIdx _ _ b => exact calm_of_noAssign b h
  | _ => exact calm_of_noAssign _ h

/-- the last statement is a `return` -/
def endsInRet : Prog → Bool
  | .ret _ => true
  | .seq _ b => endsInRet b
  | _ => false

theorem endsInRet_not_next : ∀ p, endsInRet p = true → ∀ (c : Ctx) l, (exec p c l).2 ≠ .next := by
  intro p
  induction p with
  | ret e => intro _ c l; simp [exec]
  | seq a b _ ihb =>
      intro h c l
      simp only [endsInRet] at h
      simp only [exec]
      split
      · exact ihb h c _
      · rename_i hx; exact fun hn => hx _ (Prod.ext rfl hn)
  | _ => intro h; simp [endsInRet] at h

/-- `if !f() { a }` as translated, before `rest`, for an `f` that returns false and a branch `a` that ends in a `return`:
an accepting run is an accepting run of `a` -/
theorem accept_enters_branch {f a rest : Prog} {t : String} {c : Ctx} {l : Locals}
    (hf : (exec f c []).2 = .ret (.bool false)) (hend : endsInRet a = true)
    (h : (exec (.seq (.block (.seq (.sub t [] [] f) (.ite (.not (.var t)) a .skip))) rest) c l).2 = .ret (.err none)) :
    (exec a c ((t, .bool false) :: l)).2 = .ret (.err none) := by
  have hb := exec_callSwitch_sig (a := a) (b := .skip) (t := t) (l := l) hf
  rwa [exec_seq_stop (hb ▸ endsInRet_not_next a hend c _), hb] at h

end Ach.GoLite
