import Ach.Model.Validate
/-!
# `sumBy`: the sums of the validation model

`sumBy f l` is written as a left fold in the model; it is `(l.map f).sum` (`sumBy_eq_map_sum`), from which the
equations and the facts the tally, tamper and bridge proofs share follow.
-/
namespace Ach

theorem sumBy_eq_map_sum {α} (f : α → Int) (l : List α) : sumBy f l = (l.map f).sum := by
  rw [List.sum_eq_foldl, List.foldl_map]; rfl

theorem sumBy_nil {α} (f : α → Int) : sumBy f ([] : List α) = 0 := rfl

theorem sumBy_cons {α} (f : α → Int) (a : α) (l : List α) : sumBy f (a :: l) = f a + sumBy f l := by
  simp only [sumBy_eq_map_sum, List.map_cons, List.sum_cons]

theorem sumBy_append {α} (f : α → Int) (l₁ l₂ : List α) : sumBy f (l₁ ++ l₂) = sumBy f l₁ + sumBy f l₂ := by
  simp only [sumBy_eq_map_sum, List.map_append, List.sum_append_int]

theorem sumBy_map {α β} (f : β → Int) (g : α → β) (l : List α) : sumBy f (l.map g) = sumBy (fun a => f (g a)) l :=
  List.foldl_map

theorem sumBy_filter_split {α} (f : α → Int) (p : α → Bool) (l : List α) :
    sumBy f l = sumBy f (l.filter p) + sumBy f (l.filter (fun x => !p x)) := by
  induction l with
  | nil => rfl
  | cons a l ih =>
    rw [sumBy_cons, ih, List.filter_cons, List.filter_cons]
    -- `a` joins the side that `p a` selects
    cases p a <;> simp only [Bool.not_true, Bool.not_false, Bool.false_eq_true, if_true, if_false, sumBy_cons]
    · exact Int.add_left_comm ..
    · exact (Int.add_assoc ..).symm

theorem sumBy_set_ne {α} (f : α → Int) (pre post : List α) (x y : α) (h : f x ≠ f y) :
    sumBy f (pre ++ x :: post) ≠ sumBy f (pre ++ y :: post) := by
  rw [sumBy_append, sumBy_append, sumBy_cons, sumBy_cons]
  exact fun e => h ((Int.add_left_inj _).1 (Int.add_left_cancel e))

theorem sumBy_map_range {α} (f : α → Int) (mk : Nat → α) (g : Nat → Int) (n : Nat) (h : ∀ i, i < n → f (mk i) = g i) :
    sumBy f ((List.range n).map mk) = ((List.range n).map g).sum := by
  rw [sumBy_eq_map_sum, List.map_map]
  exact congrArg List.sum (List.map_congr_left fun i hi => h i (List.mem_range.mp hi))

end Ach
