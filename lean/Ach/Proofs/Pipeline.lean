import Ach.Model.Pipeline
/-!
# Lemmas about the MergeDir walk and pipeline

The invariants `InvC` (control), `InvB` (multiset bookkeeping) and `InvS` (the `sync.Once` seed) are preserved by every
step.  A worker step replaces one entry of the worker list (`l.set i w'` where `l[i]? = some w`); the invariants follow
the replacement through membership (`of_mem_set`, `mem_set_of_ne`) and through sums over the list (`sum_map_set`).
-/
namespace Ach.Pipeline

theorem walk_continue_eq_allFiles (dir : String) (cs : List Node) :
    walkItems true .continue dir cs = allFiles dir cs := by
  fun_induction allFiles dir cs <;> simp [walkItems, *]

theorem walk_nosub_eq_topFiles (beh : SubdirBeh) (dir : String) (cs : List Node) :
    walkItems false beh dir cs = topFiles dir cs := by
  fun_induction topFiles dir cs <;> cases beh <;> simp [walkItems, *]

section
variable {α : Type} {l : List α} {i : Nat} {w w' x : α}

theorem set_eq_append (hg : l[i]? = some w) : ∃ a b, l = a ++ w :: b ∧ l.set i w' = a ++ w' :: b := by
  obtain ⟨h, rfl⟩ := List.getElem?_eq_some_iff.1 hg
  refine ⟨l.take i, l.drop (i + 1), ?_, by rw [List.set_eq_take_append_cons_drop, if_pos h]⟩
  rw [← List.drop_eq_getElem_cons h, List.take_append_drop]

theorem of_mem_set {C : Prop} (hm : x ∈ l.set i w') (old : x ∈ l → C) (new : x = w' → C) : C :=
  (List.mem_or_eq_of_mem_set hm).elim old new

theorem mem_set_self (hg : l[i]? = some w) : w' ∈ l.set i w' :=
  List.mem_set (List.getElem?_eq_some_iff.1 hg).1 w'

theorem mem_set_of_ne (hm : x ∈ l) (hg : l[i]? = some w) (hne : x ≠ w) : x ∈ l.set i w' := by
  obtain ⟨a, b, rfl, hset⟩ := set_eq_append (w' := w') hg
  rw [hset]
  simp only [List.mem_append, List.mem_cons] at hm ⊢
  exact hm.imp_right fun h => h.elim (absurd · hne) Or.inr

theorem mem_set_iff (hg : l[i]? = some w) (hne : x ≠ w) (hne' : x ≠ w') : x ∈ l.set i w' ↔ x ∈ l :=
  ⟨fun hm => of_mem_set hm id (absurd · hne'), fun hm => mem_set_of_ne hm hg hne⟩

theorem sum_map_set (r : α → Nat) (hg : l[i]? = some w) :
    ((l.set i w').map r).sum + r w = (l.map r).sum + r w' := by
  obtain ⟨a, b, rfl, hset⟩ := set_eq_append (w' := w') hg
  simp only [hset, List.map_append, List.map_cons, List.sum_append_nat, List.sum_cons]
  omega

theorem count_flatMap_set (g : α → List Nat) (n : Nat) (hg : l[i]? = some w) :
    ((l.set i w').flatMap g).count n + (g w).count n = (l.flatMap g).count n + (g w').count n := by
  simpa only [List.count_flatMap, Function.comp_apply] using sum_map_set (List.count n ∘ g) hg
end

theorem allExited_iff {s : St} : allExited s = true ↔ ∀ w ∈ s.workers, w.isExited = true := by
  simp [allExited]

theorem exited_of_all {s : St} {i : Nat} {w : W} (ha : allExited s = true) (hg : s.workers[i]? = some w) :
    w.isExited = true :=
  allExited_iff.1 ha w (List.mem_of_getElem? hg)

theorem step_iff_next {P : Params} {s t : St} {l : Label} : Step P s l t ↔ next P s l = some t := by
  constructor
  · intro h
    cases h <;> simp [next, *]
  · -- one case per branch of `next`: the enabled branch of each label's `match` and the branches that return `none`
    fun_cases next P s l
    case case1 i p ps h3 h2 h1 => rintro ⟨⟩; exact .send s i p ps h1 h2 h3
    case case3 i p h3 => rintro ⟨⟩; exact .parse s i p h3
    case case5 i f h3 h1 => rintro ⟨⟩; exact .deliver s i f h1 h3
    case case7 i h3 h1 => rintro ⟨⟩; exact .workerExit s i h1 h3
    case case9 i f h3 hc =>
      rintro ⟨⟩; exact .workerAbort s i f (Bool.and_eq_true_iff.1 hc).1 (Bool.and_eq_true_iff.1 hc).2 h3
    case case11 h2 h1 => rintro ⟨⟩; exact .walkerFinish s h1 h2
    case case13 k p ps h2 h1 hc hk =>
      rintro ⟨⟩; exact .walkerAbort s p ps k (Bool.and_eq_true_iff.1 hc).1 (Bool.and_eq_true_iff.1 hc).2 h1 h2 hk
    case case16 h => rintro ⟨⟩; exact .mergerFinish s h.1 h.2
    all_goals exact nofun

/-- `enabled` lists every label that has a step; so a state the driver reports as `stuck` (`showSt`:
`enabled P s = []`) has no successor -/
theorem enabled_complete {P : Params} {s t : St} {l : Label} (h : Step P s l t) : l ∈ enabled P s := by
  refine List.mem_filter.2 ⟨?_, by rw [step_iff_next.1 h]; rfl⟩
  have worker {i : Nat} {w : W} {l : Label} (hg : s.workers[i]? = some w)
      (hl : l ∈ [Label.send i, .parse i, .deliver i, .workerExit i, .workerAbort i]) : l ∈ candidates s :=
    List.mem_append_right _ (List.mem_flatMap.2 ⟨i, List.mem_range.2 (List.getElem?_eq_some_iff.1 hg).1, hl⟩)
  cases h with
  | send _ _ _ _ _ h3 | parse _ _ h3 | deliver _ _ _ h3 | workerExit _ _ h3 | workerAbort _ _ _ _ h3 =>
    exact worker h3 (by simp)
  | walkerFinish | mergerFinish => exact List.mem_append_left _ (List.mem_append_left _ (by simp))
  | walkerAbort p ps k hc he h1 h2 hk =>
    have : k ∈ List.range s.remaining.length := List.mem_range.2 (by rw [h2]; exact Nat.lt_succ_of_le hk)
    exact List.mem_append_left _ (List.mem_append_right _ (List.mem_map_of_mem this))

theorem reach_of_runLabels {P : Params} {n : Nat} {paths : List PFile} {s t : St} (ls : List Label)
    (hs : Reach P n paths s) (hr : runLabels P s ls = some t) : Reach P n paths t := by
  fun_induction runLabels P s ls with
  | case1 => cases hr; exact hs
  | case2 s l ls u hu ih => exact ih (hs.step (step_iff_next.2 hu)) hr
  | case3 => cases hr

theorem afterParse_eq_exited {p : PFile} {e : Exit} : afterParse p = .exited e ↔ e = .err ∧ p.bad = true := by
  unfold afterParse PFile.bad
  cases p.accepted <;> cases p.parseable <;> simp [eq_comm]

theorem afterParse_eq_holding {p : PFile} {f : Nat} : afterParse p = .holding f ↔ f = p.id ∧ p.good = true := by
  unfold afterParse PFile.good
  cases p.accepted <;> cases p.parseable <;> simp [eq_comm]

theorem afterParse_ne_got (p q : PFile) : afterParse p ≠ .got q := by
  unfold afterParse
  cases p.accepted <;> cases p.parseable <;> simp

theorem parseSt_err {s : St} {i : Nat} {p : PFile} : (parseSt s i p).err = true ↔ s.err = true ∨ p.bad = true :=
  Bool.or_eq_true_iff

theorem parseSt_err_eq_false {s : St} {i : Nat} {p : PFile} :
    (parseSt s i p).err = false ↔ s.err = false ∧ p.bad = false :=
  Bool.or_eq_false_iff

/-- what a worker contributes to "parsed or about to be parsed, not yet merged" -/
def inflight : W → List Nat
  | .got p => goodIds [p]
  | .holding f => [f]
  | _ => []

structure InvC (n : Nat) (paths : List PFile) (s : St) : Prop where
  len : s.workers.length = n
  /-- while no error occurred nothing has been skipped -/
  split : s.err = false → s.sent ++ s.remaining = paths
  sub : ∀ p, p ∈ s.sent ∨ p ∈ s.remaining → p ∈ paths
  merger : s.mergerDone = true → allExited s = true
  exitOk : W.exited .ok ∈ s.workers → s.walkerDone = true
  /-- the errgroup holds an error iff some worker returned one -/
  errIff : s.err = true ↔ W.exited .err ∈ s.workers
  abortErr : W.exited .abort ∈ s.workers → s.err = true
  walked : s.walkerDone = true → s.remaining = []
  gotSent : ∀ p, W.got p ∈ s.workers → p ∈ s.sent
  /-- an unparseable accepted file that was sent is either still being read or has produced the error -/
  badSeen : ∀ p ∈ s.sent, p.bad = true → W.got p ∈ s.workers ∨ s.err = true
  errBad : s.err = true → ∃ p ∈ s.sent, p.bad = true

theorem invC_init (n : Nat) (paths : List PFile) : InvC n paths (init n paths) := by
  constructor <;> simp [init, List.mem_replicate]

theorem InvC.busy {n : Nat} {paths : List PFile} {s : St} (hi : InvC n paths s) {i : Nat} {w : W}
    (hg : s.workers[i]? = some w) (hw : w.isExited = false) : s.mergerDone ≠ true := fun hm => by
  cases hw.symm.trans (exited_of_all (hi.merger hm) hg)

theorem invC_step {P : Params} {n : Nat} {paths : List PFile} {s t : St} {l : Label}
    (hi : InvC n paths s) (hs : Step P s l t) : InvC n paths t := by
  -- `{ hi with … }` keeps the fields whose statement the step leaves as it is.  In a worker step `h3` names the
  -- worker replaced: a member of the new list is an old one or the new worker (`of_mem_set hm old new`), and an old
  -- member other than the one replaced is still there (`mem_set_of_ne`).
  cases hs with
  | send i p ps h1 h2 h3 =>
    exact {
      len := (List.length_set ..).trans hi.len
      split := fun he => by simp [sendSt, ← hi.split he, h2]
      sub := fun q hq => hi.sub q (by simpa [sendSt, h2, or_assoc] using hq)
      merger := fun hm => absurd hm (hi.busy h3 rfl)
      exitOk := fun hm => of_mem_set hm hi.exitOk nofun
      errIff := hi.errIff.trans (mem_set_iff h3 (by simp) (by simp)).symm
      abortErr := fun hm => of_mem_set hm hi.abortErr nofun
      walked := fun hw => by cases h1.symm.trans hw
      gotSent := fun q hm => of_mem_set hm (fun h => List.mem_append_left _ (hi.gotSent q h))
        fun h => by cases h; simp [sendSt]
      badSeen := fun q hq hb => (List.mem_append.1 hq).elim
        (fun hq => (hi.badSeen q hq hb).imp_left (mem_set_of_ne · h3 nofun))
        fun hq => by cases List.mem_singleton.1 hq; exact Or.inl (mem_set_self h3)
      errBad := fun he => (hi.errBad he).imp fun q h => ⟨List.mem_append_left _ h.1, h.2⟩ }
  | parse i p h3 =>
    -- the flag is raised exactly when the new worker is `exited .err` (`afterParse_eq_exited`)
    exact { hi with
      len := (List.length_set ..).trans hi.len
      split := fun he => hi.split (parseSt_err_eq_false.1 he).1
      merger := fun hm => absurd hm (hi.busy h3 rfl)
      exitOk := fun hm => of_mem_set hm hi.exitOk fun h => nomatch (afterParse_eq_exited.1 h.symm).1
      errIff := parseSt_err.trans ⟨fun he => he.elim (fun he => mem_set_of_ne (hi.errIff.1 he) h3 nofun)
          fun hb => afterParse_eq_exited.2 ⟨rfl, hb⟩ ▸ mem_set_self h3,
        fun hm => of_mem_set hm (Or.inl ∘ hi.errIff.2) fun h => Or.inr (afterParse_eq_exited.1 h.symm).2⟩
      abortErr := fun hm => of_mem_set hm (fun h => parseSt_err.2 (Or.inl (hi.abortErr h)))
        fun h => nomatch (afterParse_eq_exited.1 h.symm).1
      gotSent := fun q hm => of_mem_set hm (hi.gotSent q) fun h => absurd h.symm (afterParse_ne_got p q)
      badSeen := fun q hq hb => (Decidable.em (q = p)).elim (fun h => Or.inr (parseSt_err.2 (Or.inr (h ▸ hb))))
        fun hne => (hi.badSeen q hq hb).imp (mem_set_of_ne · h3 fun h => hne (W.got.inj h)) (parseSt_err.2 ∘ Or.inl)
      errBad := fun he => (parseSt_err.1 he).elim hi.errBad
        fun hb => ⟨p, hi.gotSent p (List.mem_of_getElem? h3), hb⟩ }
  | deliver i f h1 h3 =>
    exact { hi with
      len := (List.length_set ..).trans hi.len
      merger := fun hm => absurd hm (hi.busy h3 rfl)
      exitOk := fun hm => of_mem_set hm hi.exitOk nofun
      errIff := hi.errIff.trans (mem_set_iff h3 (by simp) (by simp)).symm
      abortErr := fun hm => of_mem_set hm hi.abortErr nofun
      gotSent := fun q hm => of_mem_set hm (hi.gotSent q) nofun
      badSeen := fun q hq hb => (hi.badSeen q hq hb).imp_left (mem_set_of_ne · h3 nofun) }
  | workerExit i h1 h3 =>
    exact { hi with
      len := (List.length_set ..).trans hi.len
      merger := fun hm => absurd hm (hi.busy h3 rfl)
      exitOk := fun _ => h1
      errIff := hi.errIff.trans (mem_set_iff h3 (by simp) (by simp)).symm
      abortErr := fun hm => of_mem_set hm hi.abortErr nofun
      gotSent := fun q hm => of_mem_set hm (hi.gotSent q) nofun
      badSeen := fun q hq hb => (hi.badSeen q hq hb).imp_left (mem_set_of_ne · h3 nofun) }
  | workerAbort i f hc he h3 =>
    exact { hi with
      len := (List.length_set ..).trans hi.len
      merger := fun hm => absurd hm (hi.busy h3 rfl)
      exitOk := fun hm => of_mem_set hm hi.exitOk nofun
      errIff := hi.errIff.trans (mem_set_iff h3 (by simp) (by simp)).symm
      abortErr := fun _ => he
      gotSent := fun q hm => of_mem_set hm (hi.gotSent q) nofun
      badSeen := fun _ _ _ => Or.inr he }
  | walkerFinish h1 h2 => exact { hi with exitOk := fun _ => rfl, walked := fun _ => h2 }
  | walkerAbort p ps k hc he h1 h2 hk =>
    exact { hi with
      split := fun hf => by cases he.symm.trans hf
      sub := fun q hq => hi.sub q (hq.imp_right fun hq => h2 ▸ List.mem_cons_of_mem _ (List.mem_of_mem_drop hq))
      walked := fun hw => by cases h1.symm.trans hw }
  | mergerFinish h1 h2 => exact { hi with merger := fun _ => h2 }

/-- multiset bookkeeping: merged ⊎ in flight = good files among the paths sent so far -/
def InvB (s : St) : Prop :=
  s.err = false → ∀ x, s.acc.count x + (s.workers.flatMap inflight).count x = (goodIds s.sent).count x

theorem invB_init (n : Nat) (paths : List PFile) : InvB (init n paths) := by
  intro _ x
  have : (List.replicate n W.idle).flatMap inflight = [] :=
    List.flatMap_eq_nil_iff.2 fun w h => List.eq_of_mem_replicate h ▸ rfl
  simp [init, this, goodIds]

theorem goodIds_append (a b : List PFile) : goodIds (a ++ b) = goodIds a ++ goodIds b := by
  simp [goodIds]

theorem inflight_afterParse (p : PFile) : inflight (afterParse p) = goodIds [p] := by
  obtain ⟨id, a, ok⟩ := p
  cases a <;> cases ok <;> rfl

/-- a worker step keeps the books if it keeps them for the worker it moves: what is merged or sent more is what that
worker holds less or more -/
theorem invB_set {s t : St} {i : Nat} {w w' : W} (hi : InvB s) (hg : s.workers[i]? = some w)
    (hw : t.workers = s.workers.set i w') (he : t.err = false → s.err = false)
    (h : ∀ x, t.acc.count x + (inflight w').count x + (goodIds s.sent).count x =
      s.acc.count x + (inflight w).count x + (goodIds t.sent).count x) : InvB t := by
  intro het x
  have h1 := hi (he het) x
  have h2 := count_flatMap_set (w' := w') inflight x hg
  have h3 := h x
  rw [hw]
  omega

theorem invB_step {P : Params} {s t : St} {l : Label} (hi : InvB s) (hs : Step P s l t) : InvB t := by
  cases hs with
  | send i p ps h1 h2 h3 =>
    refine invB_set hi h3 rfl id fun x => ?_
    simp only [sendSt, inflight, goodIds_append, List.count_append, List.count_nil]
    omega
  | parse i p h3 =>
    exact invB_set hi h3 rfl (fun h => (parseSt_err_eq_false.1 h).1) fun x => by
      rw [inflight_afterParse p]; rfl
  | deliver i f h1 h3 =>
    refine invB_set hi h3 rfl id fun x => ?_
    simp only [deliverSt, inflight, List.count_append, List.count_nil]
    omega
  | workerExit i h1 h3 => exact invB_set hi h3 rfl id fun _ => rfl  -- nothing in flight before or after
  | workerAbort i f hc he h3 => exact fun hf => by cases he.symm.trans hf
  | walkerFinish | walkerAbort | mergerFinish => exact hi

/-- the `sync.Once`: the header is seeded before any parsed file can reach the merger, and the seeding file is
itself merged or on its way -/
structure InvS (s : St) : Prop where
  seedNone : s.seed = none → s.acc = [] ∧ ∀ f, W.holding f ∉ s.workers
  seedIn : s.err = false → ∀ f, s.seed = some f → f ∈ s.acc ∨ W.holding f ∈ s.workers

theorem invS_init (n : Nat) (paths : List PFile) : InvS (init n paths) :=
  ⟨fun _ => ⟨rfl, fun f h => by simp [init, List.mem_replicate] at h⟩, fun _ f h => by simp [init] at h⟩

/-- a worker step that moves no parsed file: seed and `acc` stay, the worker does not start `holding` and (short of an
error) was not `holding` before -/
theorem invS_set {s t : St} {i : Nat} {w w' : W} (hi : InvS s) (hg : s.workers[i]? = some w)
    (hw : t.workers = s.workers.set i w') (hseed : t.seed = s.seed) (hacc : t.acc = s.acc)
    (herr : t.err = false → s.err = false) (hw' : ∀ f, w' ≠ .holding f)
    (hne : t.err = false → ∀ f, w ≠ .holding f) : InvS t where
  seedNone hq := hacc ▸ (hi.seedNone (hseed ▸ hq)).imp_right fun h f hm =>
    of_mem_set (hw ▸ hm) (h f) fun e => hw' f e.symm
  seedIn he f hq := hacc ▸ (hi.seedIn (herr he) f (hseed ▸ hq)).imp_right fun hm =>
    hw ▸ mem_set_of_ne hm hg fun e => hne he f e.symm

theorem invS_step {P : Params} {s t : St} {l : Label} (hi : InvS s) (hs : Step P s l t) : InvS t := by
  cases hs with
  | send _ _ _ _ _ h3 | workerExit _ _ h3 =>
    exact invS_set hi h3 rfl rfl rfl id nofun fun _ => nofun
  | parse i p h3 =>
    have herr : (parseSt s i p).err = false → s.err = false := fun he => (parseSt_err_eq_false.1 he).1
    cases hg : p.good with
    | false =>
      have hw (f : Nat) : afterParse p ≠ .holding f := fun h => by simp [(afterParse_eq_holding.1 h).2] at hg
      exact invS_set hi h3 rfl (by simp [parseSt, hg]) rfl herr hw fun _ => nofun
    | true =>
      have hw : afterParse p = .holding p.id := afterParse_eq_holding.2 ⟨rfl, hg⟩
      have hseed : (parseSt s i p).seed = s.seed.or (some p.id) := by simp [parseSt, hg]
      refine ⟨fun hq => by simp [hseed] at hq, fun he f hq => ?_⟩
      rcases Option.or_eq_some_iff.1 (hseed ▸ hq) with hs | ⟨_, hs⟩
      · exact (hi.seedIn (herr he) f hs).imp_right (mem_set_of_ne · h3 nofun)
      · cases hs; exact Or.inr (hw ▸ mem_set_self h3)
  | deliver i f h1 h3 =>
    refine ⟨fun hq => absurd (List.mem_of_getElem? h3) ((hi.seedNone hq).2 f), fun he g hq => ?_⟩
    by_cases hgf : g = f
    · exact Or.inl (by simp [deliverSt, hgf])
    · exact (hi.seedIn he g hq).imp (List.mem_append_left _) (mem_set_of_ne · h3 fun h => hgf (W.holding.inj h))
  | workerAbort i f hc he h3 =>
    have hf : (exitSt s i .abort).err ≠ false := by simp [exitSt, he]
    exact invS_set hi h3 rfl rfl rfl (absurd · hf) nofun (absurd · hf)
  | walkerFinish | walkerAbort | mergerFinish => exact ⟨hi.1, hi.2⟩

structure Inv (n : Nat) (paths : List PFile) (s : St) : Prop where
  c : InvC n paths s
  b : InvB s
  s : InvS s

theorem inv_reach {P : Params} {n : Nat} {paths : List PFile} {s : St} (h : Reach P n paths s) : Inv n paths s := by
  induction h with
  | init => exact ⟨invC_init n paths, invB_init n paths, invS_init n paths⟩
  | step _ st ih => exact ⟨invC_step ih.c st, invB_step ih.b st, invS_step ih.s st⟩

theorem InvC.err_of_exited {n : Nat} {paths : List PFile} {s : St} (hi : InvC n paths s) {e : Exit}
    (hm : .exited e ∈ s.workers) (hw : s.walkerDone = false) : s.err = true := by
  cases e with
  | ok => cases (hi.exitOk hm).symm.trans hw
  | err => exact hi.errIff.2 hm
  | abort => exact hi.abortErr hm

theorem progress {P : Params} {n : Nat} {paths : List PFile} {s : St} (hn : 0 < n) (hi : InvC n paths s)
    (hnt : terminal s = false) (hab : s.err = true → P.walkerAbortable = true) : ∃ l t, Step P s l t := by
  cases hall : allExited s with
  | true =>
    -- only the walker and the merger are left
    cases hw : s.walkerDone with
    | true =>
      cases hm : s.mergerDone with
      | true => simp [terminal, hall, hw, hm] at hnt
      | false => exact ⟨_, _, .mergerFinish s hm hall⟩
    | false =>
      cases hr : s.remaining with
      | nil => exact ⟨_, _, .walkerFinish s hw hr⟩
      | cons p ps =>
        -- the walker's send has no receiver: a worker exists (`0 < n`) and has returned, so there is an error
        obtain ⟨w, hwm⟩ := List.exists_mem_of_length_pos (hi.len ▸ hn)
        cases w with
        | exited e =>
          have he := hi.err_of_exited hwm hw
          exact ⟨_, _, .walkerAbort s p ps 0 (hab he) he hw hr (Nat.zero_le _)⟩
        | _ => cases allExited_iff.1 hall _ hwm
  | false =>
    -- some worker has not returned: it can move
    obtain ⟨w, hwm, hwx⟩ : ∃ w ∈ s.workers, w.isExited = false := by simpa [allExited] using hall
    obtain ⟨i, hg⟩ := List.mem_iff_getElem?.1 hwm
    cases w with
    | holding f => exact ⟨_, _, .deliver s i f (Bool.eq_false_iff.2 (hi.busy hg rfl)) hg⟩
    | got p => exact ⟨_, _, .parse s i p hg⟩
    | idle =>
      cases hwd : s.walkerDone with
      | true => exact ⟨_, _, .workerExit s i hwd hg⟩
      | false =>
        cases hr : s.remaining with
        | nil => exact ⟨_, _, .walkerFinish s hwd hr⟩
        | cons p ps => exact ⟨_, _, .send s i p ps hwd hr hg⟩
    | exited e => cases hwx

/-- the deadlock of finding D4 in general: every worker has returned and the merger with them, while the walker
still has a path to send and cannot abandon the send -/
theorem stuck_of_walker_blocked {P : Params} {s : St} (hP : P.walkerAbortable = false) (hall : allExited s = true)
    (hm : s.mergerDone = true) (hr : s.remaining ≠ []) : ¬ ∃ l t, Step P s l t := by
  rintro ⟨l, t, h⟩
  cases h with
  | send _ _ _ _ _ h3 | parse _ _ h3 | deliver _ _ _ h3 | workerExit _ _ h3 | workerAbort _ _ _ _ h3 =>
    cases exited_of_all hall h3
  | walkerFinish h1 h2 => exact hr h2
  | walkerAbort p ps k hc he h1 h2 hk => cases hP.symm.trans hc
  | mergerFinish h1 h2 => cases h1.symm.trans hm

def W.rank : W → Nat
  | .exited _ => 0
  | .idle => 1
  | .holding _ => 2
  | .got _ => 3

/-- strictly decreases on every step (`measure_decreases`) -/
def runMeasure (s : St) : Nat :=
  3 * s.remaining.length + (s.workers.map W.rank).sum + (!s.walkerDone).toNat + (!s.mergerDone).toNat

theorem rank_afterParse (p : PFile) : (afterParse p).rank ≤ 2 := by
  unfold afterParse
  cases p.accepted <;> cases p.parseable <;> simp [W.rank]

/-- a worker step lowers the measure if the paths it takes from the walker (3 each) and the moved worker's rank
together go down -/
theorem runMeasure_set_lt {s t : St} {i : Nat} {w w' : W} (hg : s.workers[i]? = some w)
    (hw : t.workers = s.workers.set i w') (hwd : t.walkerDone = s.walkerDone) (hmd : t.mergerDone = s.mergerDone)
    (h : 3 * t.remaining.length + w'.rank < 3 * s.remaining.length + w.rank) : runMeasure t < runMeasure s := by
  have := sum_map_set (w' := w') W.rank hg
  rw [runMeasure, runMeasure, hw, hwd, hmd]
  omega

theorem measure_decreases {P : Params} {s t : St} {l : Label} (hs : Step P s l t) : runMeasure t < runMeasure s := by
  cases hs with
  | send i p ps h1 h2 h3 =>
    refine runMeasure_set_lt h3 rfl rfl rfl ?_
    simp only [sendSt, h2, List.length_cons, W.rank]
    omega
  | parse i p h3 =>
    exact runMeasure_set_lt h3 rfl rfl rfl (Nat.add_lt_add_left (Nat.lt_succ_of_le (rank_afterParse p)) _)
  | deliver i f h1 h3 => exact runMeasure_set_lt h3 rfl rfl rfl (Nat.add_lt_add_left (Nat.lt_succ_self 1) _)
  | workerExit i h1 h3 => exact runMeasure_set_lt h3 rfl rfl rfl (Nat.add_lt_add_left Nat.one_pos _)
  | workerAbort i f hc he h3 => exact runMeasure_set_lt h3 rfl rfl rfl (Nat.add_lt_add_left Nat.two_pos _)
  | walkerFinish h1 | mergerFinish h1 => simp [runMeasure, h1]
  | walkerAbort p ps k hc he h1 h2 hk =>
    simp only [runMeasure, h2, List.length_cons, List.length_drop]
    omega

theorem terminal_parts {s : St} (h : terminal s = true) :
    s.mergerDone = true ∧ s.walkerDone = true ∧ allExited s = true := by
  simpa [terminal, Bool.and_eq_true, and_assoc] using h

theorem exited_of_terminal {s : St} {w : W} (ht : terminal s = true) (hm : w ∈ s.workers) : w.isExited = true :=
  allExited_iff.1 (terminal_parts ht).2.2 w hm

theorem InvC.sent_eq {n : Nat} {paths : List PFile} {s : St} (hi : InvC n paths s) (hw : s.walkerDone = true)
    (he : s.err = false) : s.sent = paths := by
  simpa [hi.walked hw] using hi.split he

theorem inflight_nil_of_exited {s : St} (h : allExited s = true) : s.workers.flatMap inflight = [] :=
  List.flatMap_eq_nil_iff.2 fun w hw => by
    cases w with
    | exited e => rfl
    | _ => cases allExited_iff.1 h _ hw

theorem InvB.perm {s : St} (hi : InvB s) (he : s.err = false) :
    (s.acc ++ s.workers.flatMap inflight).Perm (goodIds s.sent) :=
  List.perm_iff_count.2 fun x => by simpa only [List.count_append] using hi he x

theorem delivers {n : Nat} {paths : List PFile} {s : St} (hi : Inv n paths s) (ht : terminal s = true)
    (he : s.err = false) : s.acc.Perm (goodIds paths) := by
  obtain ⟨_, hw, hall⟩ := terminal_parts ht
  simpa [inflight_nil_of_exited hall, hi.c.sent_eq hw he] using hi.b.perm he

theorem InvC.bad_of_err {n : Nat} {paths : List PFile} {s : St} (hi : InvC n paths s) (he : s.err = true) :
    ∃ p ∈ paths, p.bad = true :=
  (hi.errBad he).imp fun p h => ⟨hi.sub p (Or.inl h.1), h.2⟩

theorem terminal_err_iff {n : Nat} {paths : List PFile} {s : St} (hi : InvC n paths s) (ht : terminal s = true) :
    s.err = true ↔ ∃ p ∈ paths, p.bad = true := by
  refine ⟨hi.bad_of_err, fun ⟨p, hp, hb⟩ => ?_⟩
  cases he : s.err with
  | true => rfl
  | false =>
    -- `p` was sent, and no worker is still reading it
    refine (hi.badSeen p (hi.sent_eq (terminal_parts ht).2.1 he ▸ hp) hb).elim (fun h => ?_) (he ▸ ·)
    cases exited_of_terminal ht h

theorem result_eq_none {s : St} : result s = none ↔ s.err = true := by
  cases h : s.err <;> simp [result, h]

inductive Steps (P : Params) : St → St → Prop
  | refl (s : St) : Steps P s s
  | tail {s t u : St} {l : Label} : Steps P s t → Step P t l u → Steps P s u

theorem reach_steps {P : Params} {n : Nat} {paths : List PFile} {s t : St} (hs : Reach P n paths s)
    (h : Steps P s t) : Reach P n paths t := by
  induction h with
  | refl => exact hs
  | tail _ st ih => exact Reach.step ih st

theorem step_err_mono {P : Params} {s t : St} {l : Label} (h : Step P s l t) (he : s.err = true) : t.err = true := by
  cases h with
  | parse => exact parseSt_err.2 (Or.inl he)
  | _ => exact he

theorem err_monotone {P : Params} {s t : St} (h : Steps P s t) (he : s.err = true) : t.err = true := by
  induction h with
  | refl => exact he
  | tail _ st ih => exact step_err_mono st ih

end Ach.Pipeline
