import Ach.Props.AcceptedTraces
import Ach.Props.AcceptedHash
import Ach.Props.CheckDigitCode
import Ach.Props.RuneClassCode
import Ach.Props.DirBridge
/-!
# The byte-slicing helpers never leave their strings (C06), on the code as translated on this run

In the GoLite embedding an index or slice outside its string, a nil dereference and a division by zero evaluate to
`Val.bad`, and `bad` is strict: a statement that meets it ends the run in `Sig.stuck`.  A theorem saying that a translated
function *returns* — for **every** argument of its domain, not only the accepted ones — is therefore a proof that none of
the panic sites the embedding models (those `index_site_census` lists for the function) is reached.

Limit of the embedding, stated in each theorem: byte slicing of non-ASCII text is outside it (`bad` although Go would
slice the bytes), so the string arguments are ASCII; non-ASCII arguments stay with the oracle.

Each function is followed statement by statement (`exec_guard`, `exec_initGuard`, `exec_bind`): a guard splits the run,
and what its false branch says is what the next index or slice needs.  What a step has to know about its condition or
expression is left open as a named goal (`?count`) and proved in the `case` right below it, where Lean has filled in the
locals and the expression.
-/
namespace Ach.Props.NoPanicCode
open Ach Ach.GoLite Ach.Gen

theorem byteLen_ascii (s : Str) (h : allAscii s = true) : byteLen s = s.length := by
  unfold byteLen
  induction s with
  | nil => rfl
  | cons a s ih =>
      obtain ⟨ha, hs⟩ : a.toNat < 128 ∧ allAscii s = true := by simpa [allAscii, isAscii] using h
      simp [runeLen, ha, ih hs, Nat.add_comm]

/-- `EntryDetail.CATXAddendaRecordsField` (`r.IndividualName[:4]`): for every ASCII name of any length the function
returns a string — the slice is guarded by the rune count -/
theorem catxAddendaRecordsField_returns (c : Ctx) (name : Str) (hA : allAscii name = true)
    (hn : lookup c.fields (joinPath c.recv "IndividualName") = .str name) :
    ∃ s, (exec v_EntryDetail_CATXAddendaRecordsField c []).2 = .ret (.str s) := by
  unfold v_EntryDetail_CATXAddendaRecordsField
  simp only [seqs]
  rw [exec_guard (b := decide ((name.length : Int) < 5)) ?count rfl (by simp)]
  case count => simp only [eval, hn]; rw [builtin1]; simp [cmpVals]
  split
  · exact ⟨name, congrArg Sig.ret (by simp only [eval, hn])⟩
  · rename_i h5
    -- the slice is inside the name: it has five runes at least, and as many bytes
    have hsl : sliceAscii name 0 4 = .str (name.take 4) := by
      have : (5 : Int) ≤ name.length := by simpa using h5
      have h4 : (4 : Int) ≤ name.length := by omega
      simp [sliceAscii, hA, h4]
    exact ⟨trimSpace (name.take 4), by simp only [exec, eval, hn]; rw [builtin3, hsl, builtin1]⟩

/-- `CheckRoutingNumber` (`routingNumber[len(routingNumber)-1]`): for every ASCII argument of any length the function
returns an error value (nil or not) — the index is guarded by the nine-rune check -/
theorem checkRoutingNumber_returns (c : Ctx) (s : Str) (hA : allAscii s = true) :
    ∃ e, (exec v_CheckRoutingNumber c [("routingNumber", .str s)]).2 = .ret (.err e) := by
  unfold v_CheckRoutingNumber
  simp only [seqs]
  rw [exec_guard (b := decide (s = [])) ?empty rfl (by simp)]
  case empty => simp [eval, lookup_cons_self, cmpVals]
  split
  · exact ⟨_, congrArg Sig.ret (eval_errorsNew ..)⟩
  rw [exec_initGuard (v := .int s.length) (b := decide ((s.length : Int) ≠ 9)) ?count (by simp) ?nine rfl (by simp)]
  case count => simp only [eval, lookup_cons_self]; rw [builtin1]
  case nine => simp [eval, lookup_cons_self, cmpVals]
  split
  · exact ⟨_, congrArg Sig.ret (eval_errorf2 ..)⟩
  rename_i h9
  have h9 : s.length = 9 := by
    have : (s.length : Int) = 9 := by simpa using h9
    omega
  rw [exec_seq_next (exec_bind (v := .int (calculateCheckDigit s)) ?check (by simp)),
    exec_seq_next (exec_bind (v := .int ((s[8]'(by omega)).toNat - 48)) ?last (by simp)),
    exec_guard (b := decide (calculateCheckDigit s ≠ (s[8]'(by omega)).toNat - 48)) ?cmp rfl (by simp)]
  case check => simp only [eval, lookup_cons_self]; rw [builtin1]
  case last =>
    -- the index is the last of nine bytes
    have h8 : arith "sub" (.int s.length) (.int 1) = .int (8 : Nat) := by
      simp [arith]
      omega
    simp only [eval, lookup_cons_self, lookup_cons_ne, ne_eq, String.reduceEq, not_false_eq_true]
    rw [builtin1, byteLen_ascii s hA, h8, Ach.Props.CheckDigitCode.index_ascii s hA 8 (by omega)]
    simp [arith]
  case cmp => simp [eval, lookup_cons_self, lookup_cons_ne, cmpVals]
  split
  · exact ⟨_, congrArg Sig.ret (eval_errorf3 ..)⟩
  · exact ⟨none, rfl⟩

section
open Ach.Props.AcceptedTraces

/-- one turn of the loop of `isTraceNumberODFI` on an ASCII trace number of any length (also shorter than eight bytes):
it falls through with the loop's variables restored, or returns the field error — the `[:8]` is guarded by `len` -/
theorem odfiBody_total (c : Ctx) (b : Str) (ep : String) (t : Str) (hA : allAscii t = true)
    (ht : lookup c.fields (joinPath ep "TraceNumber") = .str t) :
    ((exec odfiBody c [("entry", .ref ep), ("bhODFI", .str b)]).2 = .next ∧
      scopeExit [("bhODFI", Val.str b)] (exec odfiBody c [("entry", .ref ep), ("bhODFI", .str b)]).1 = [("bhODFI", .str b)]) ∨
    (exec odfiBody c [("entry", .ref ep), ("bhODFI", .str b)]).2 = .ret (.err (some "ODFIIdentificationField")) := by
  have hlen : builtin1 c.ext "len" (Val.str t) = .int t.length := by rw [builtin1, byteLen_ascii t hA]
  simp only [odfiBody, seqs]
  -- the second statement takes the slice only of eight bytes or more
  rw [exec_seq_next (exec_bind (v := .str []) rfl (by simp)),
    exec_seq_next (l1 := [("entryODFI", .str (if (8 : Int) ≤ t.length then t.take 8 else [])), ("entry", .ref ep),
      ("bhODFI", .str b)]) ?slice]
  case slice =>
    by_cases h8 : (8 : Int) ≤ t.length
    · have hsl : builtin3 "slice" (Val.str t) (Val.int 0) (Val.int 8) = .str (t.take 8) := by
        simp [builtin3, sliceAscii, hA, h8]
      simp [exec, eval, lookup, ht, hlen, hsl, cmpVals, h8, update, scopeExit]
    · simp [exec, eval, lookup, ht, hlen, cmpVals, h8, scopeExit]
  generalize (if (8 : Int) ≤ t.length then t.take 8 else []) = e
  by_cases hbe : b = e
  · left
    simp [exec, eval, lookup, cmpVals, hbe, scopeExit]
  · right
    simp [exec, eval, lookup, cmpVals, hbe, scopeExit]

/-- the loop, over any list of entries: it ends by falling through or by returning the field error — never stuck -/
theorem odfi_iter_total (c : Ctx) (p : String) (n : Nat) (tr : Nat → Str) (b : Str)
    (hA : ∀ i, i < n → allAscii (tr i) = true)
    (htr : ∀ i, i < n → lookup c.fields (joinPath (elemPath p i) "TraceNumber") = .str (tr i)) :
    ∀ is : List Nat, (∀ i ∈ is, i < n) →
      (iter (fun l' => exec odfiBody c l') (fun i => .ref (elemPath p i)) "entry" is [("bhODFI", .str b)]).2 = .next ∨
      (iter (fun l' => exec odfiBody c l') (fun i => .ref (elemPath p i)) "entry" is [("bhODFI", .str b)]).2 =
        .ret (.err (some "ODFIIdentificationField")) := by
  intro is hlt
  -- `iter_all`, with "the turn on entry `i` falls through" as the property of the index
  rw [iter_all _ _ _ _ (fun i => decide ((exec odfiBody c [("entry", .ref (elemPath p i)), ("bhODFI", .str b)]).2 = .next))
    (.err (some "ODFIIdentificationField")) is (fun i hi => ?_)]
  · split
    · exact Or.inl rfl
    · exact Or.inr rfl
  · rcases odfiBody_total c b (elemPath p i) (tr i) (hA i (hlt i hi)) (htr i (hlt i hi)) with ⟨hs, hsc⟩ | hs
    · simp [hs, hsc]
    · simp [hs]

/-- C06 — `Batch.isTraceNumberODFI` (`entry.TraceNumber[:8]`) **returns** for every batch: any number of entries, ASCII
trace numbers of any length (empty and shorter than eight included), either value of `BypassOriginValidation` -/
theorem isTraceNumberODFI_returns (c : Ctx) (hp p : String) (n : Nat) (tr : Nat → Str) (odfi : Str)
    (hH : lookup c.fields (joinPath c.recv "Header") = .ref hp)
    (ho : lookup c.fields (joinPath hp "ODFIIdentification") = .str odfi)
    (hE : lookup c.fields (joinPath c.recv "Entries") = .lst p n)
    (hA : ∀ i, i < n → allAscii (tr i) = true)
    (htr : ∀ i, i < n → lookup c.fields (joinPath (elemPath p i) "TraceNumber") = .str (tr i)) :
    ∃ e, (exec v_Batch_isTraceNumberODFI c []).2 = .ret (.err e) := by
  rw [isTraceNumberODFI_shape]
  simp only [odfiProg, seqs]
  rw [exec_guard (b := hasFlag c "recv" "BypassOriginValidation") rfl rfl (by simp)]
  split
  · exact ⟨none, rfl⟩
  rw [exec_seq_next (exec_bind (v := .str (stringField odfi 8)) ?odfi (by simp))]
  case odfi => simp [eval, hH, ho, builtin2]
  have hloop := odfi_iter_total c p n tr (stringField odfi 8) hA htr (List.range n) (fun k hk => List.mem_range.mp hk)
  rw [← exec_forEach_lst (coll := .fld "Entries") ?entries] at hloop
  case entries => simp only [eval, hE]
  rcases hloop with h | h
  · exact ⟨none, by rw [exec_seq_of_next h]; rfl⟩
  · exact ⟨_, exec_seq_ret h⟩

end

/-! ## the functions already characterised elsewhere, read as "never stuck" -/

/-- `aba8` (`rtn[0]`, `rtn[1:9]`, `rtn[:8]`): returns a string for every ASCII argument of any length -/
theorem aba8_returns (c : Ctx) (r : Str) (ha : allAscii r = true) :
    ∃ s, (exec v_aba8 c [("rtn", .str r)]).2 = .ret (.str s) :=
  ⟨_, Ach.Props.AcceptedHash.aba8_exec c r ha⟩

/-- `EntryDetail.CreditOrDebit` (`tc[1:2]`): returns a string for **every** integer transaction code -/
theorem creditOrDebit_returns (c : Ctx) (t : Int)
    (ht : lookup c.fields (joinPath c.recv "TransactionCode") = .int t) :
    ∃ s, (exec v_EntryDetail_CreditOrDebit c []).2 = .ret (.str s) :=
  ⟨_, Ach.Props.DirBridge.code_dir_is_model_dir c t ht⟩

/-- `CalculateCheckDigit` (a `range` over the string with an index per digit): returns a number for every ASCII argument of
any length -/
theorem calculateCheckDigit_returns (c : Ctx) (s : Str) (hA : allAscii s = true) :
    ∃ d, (exec v_CalculateCheckDigit c [("routingNumber", .str s)]).2 = .ret (.int d) :=
  ⟨_, Ach.Props.CheckDigitCode.calculateCheckDigit_exec c s hA⟩

/-- the two rune-class loops of the validator return an error value for every string, ASCII or not, of any length -/
theorem runeClass_returns (c : Ctx) (s : Str) :
    (∃ e, (exec v_validator_isUpperASCII c [("s", .str s)]).2 = .ret (.err e)) ∧
    (∃ e, (exec v_validator_isAlphanumeric c [("s", .str s)]).2 = .ret (.err e)) := by
  have herr : ∀ b, ∃ e, Sig.ret (errIf b) = .ret (.err e) := fun b => by cases b <;> exact ⟨_, rfl⟩
  rw [Ach.Props.RuneClassCode.isUpperASCII_exec, Ach.Props.RuneClassCode.isAlphanumeric_exec, builtin1, builtin1]
  exact ⟨herr _, herr _⟩

/-- non-vacuity: the guards matter — a slice without its guard is `bad` in the embedding, and on a short name the CATX
accessor returns the name itself -/
example : sliceAscii ['a', 'b'] 0 4 = .bad ∧ sliceAscii ['a', 'b', 'c', 'd', 'e'] 0 4 = .str ['a', 'b', 'c', 'd'] := by decide
example : (exec v_EntryDetail_CATXAddendaRecordsField
    { fields := [("IndividualName", .str ['a', 'b'])], recvFlags := [], paramFlags := [], ext := [] } []).2 = .ret (.str ['a', 'b']) := by
  decide +kernel

end Ach.Props.NoPanicCode
