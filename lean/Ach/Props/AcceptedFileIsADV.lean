import Ach.Proofs.GoLiteSteps
import Ach.Generated.Validators
/-!
# `File.IsADV()` on a file of complete, non-ADV batches (hypothesis of the accepted-file theorems, C03)
-/
namespace Ach.Props.AcceptedFileIsADV
open Ach Ach.GoLite Ach.Gen

def isAdvBody : Prog :=
  seqs [(.block (seqs [(.bind "v" (.sel (.idx (.fld "Batches") (.var "i")) "Header")),
      (.ite (.eq (.var "v") .nil) (.effect "f.Batches[i].SetHeader(NewBatchHeader())") .skip)])),
    (.block (seqs [(.bind "v" (.sel (.idx (.fld "Batches") (.var "i")) "Control")),
      (.ite (.eq (.var "v") .nil) (.effect "f.Batches[i].SetControl(NewBatchControl())") .skip)])),
    (.ite (.eq (.sel (.sel (.idx (.fld "Batches") (.var "i")) "Header") "StandardEntryClassCode") (.str "ADV"))
      (.ret (.bool true)) .skip)]

def isAdvProg : Prog := seqs [(.forIdx "i" (.fld "Batches") isAdvBody), (.ret (.bool false))]

/-- the translated `File.IsADV` is that program (the two repairs of a missing header / control are effects: outside the
embedding) -/
theorem file_isADV_shape : v_File_IsADV = isAdvProg := rfl

theorem isAdvBody_exec {c : Ctx} {bp hp cp : String} {nb i : Nat} {sec : Str} (hi : i < nb)
    (hB : lookup c.fields (joinPath c.recv "Batches") = .lst bp nb)
    (hH : lookup c.fields (joinPath (elemPath bp i) "Header") = .ref hp)
    (hC : lookup c.fields (joinPath (elemPath bp i) "Control") = .ref cp)
    (hsec : lookup c.fields (joinPath hp "StandardEntryClassCode") = .str sec) (hn : sec ≠ ['A', 'D', 'V']) :
    exec isAdvBody c [("i", .int i)] = ([("i", .int i)], .next) := by
  have hlt : ((i : Int) < (nb : Int)) := by omega
  have hA : ("ADV" : String).toList = ['A', 'D', 'V'] := by decide
  simp [isAdvBody, seqs, exec, eval, lookup, hB, hlt, hH, hC, hsec, cmpVals, scopeExit, hA, hn]

/-- `File.IsADV()` returns false on a file each of whose batches has a header, a control and a class other than ADV —
any number of batches -/
theorem file_isADV_false (c : Ctx) (bp : String) (nb : Nat) (hp cp : Nat → String) (sec : Nat → Str)
    (hB : lookup c.fields (joinPath c.recv "Batches") = .lst bp nb)
    (hH : ∀ i, i < nb → lookup c.fields (joinPath (elemPath bp i) "Header") = .ref (hp i))
    (hC : ∀ i, i < nb → lookup c.fields (joinPath (elemPath bp i) "Control") = .ref (cp i))
    (hsec : ∀ i, i < nb → lookup c.fields (joinPath (hp i) "StandardEntryClassCode") = .str (sec i))
    (hn : ∀ i, i < nb → sec i ≠ ['A', 'D', 'V']) :
    (exec v_File_IsADV c []).2 = .ret (.bool false) := by
  -- the loop keeps no state: every turn leaves the locals `[]` as they were
  have hit := iter_fold (fun l' => exec isAdvBody c l') (fun k => .int k) "i" (fun _ : Unit => []) (fun _ _ => ())
    (List.range nb) (fun j hj _ => by
      have hj := List.mem_range.mp hj
      rw [isAdvBody_exec hj hB (hH j hj) (hC j hj) (hsec j hj) (hn j hj)]
      exact ⟨rfl, rfl⟩) ()
  simp [file_isADV_shape, isAdvProg, seqs, exec, eval, hB, hit]

end Ach.Props.AcceptedFileIsADV
