import Ach.Proofs.GoLitePaths
import Ach.Generated.Validators
/-!
# `BatchHeader.Equal` is equality of a key (shared by C08, C09)

The merge model (`Ach.Model.Merge`) groups batches by an abstract header key; the theorems of C08 / C09 hold for any
key.  What the real `MergeFiles` groups by is `BatchHeader.Equal`.  That function is translated from the source on
every run (`v_BatchHeader_Equal`); here it is shown to be — today — the comparison program over seven fields
(`equal_is_key_comparison`, by evaluation), and every program of that form is shown to return `true` exactly when the
two headers have the same key (`tailProg_spec`, `equal_true_iff_same_key`): so `Equal` is an equivalence relation and
the harness' `HeaderID` (the same seven fields, company name case-folded) is the key the model speaks about.  A change
to `Equal` that makes it something other than a conjunction of field comparisons, or changes the fields, breaks the
first obligation.

Domain: headers whose `ServiceClassCode` is an int, whose other six fields are strings and whose `CompanyName` is
ASCII (`strings.EqualFold` on non-ASCII text is outside the embedding).
-/
namespace Ach.Props.HeaderKey
open Ach Ach.GoLite Ach.Gen

/-- one comparison: field name, whether it is compared with `strings.EqualFold`, whether the field is an int -/
def cmpStmt (f : String × Bool × Bool) : Prog :=
  if f.2.1 then
    .ite (.not (.call2 "strings.EqualFold" (.fld f.1) (.sel (.var "other") f.1))) (.ret (.bool false)) .skip
  else
    .ite (.ne (.fld f.1) (.sel (.var "other") f.1)) (.ret (.bool false)) .skip

def tailProg (fs : List (String × Bool × Bool)) : Prog := seqs (fs.map cmpStmt ++ [.ret (.bool true)])

/-- `if bh == nil || other == nil { return false }`: the translator renders `recv == nil` as `false`, the receiver
being never nil in the runs the model speaks about (gofacts/golite.go) -/
def nilGuard : Prog := .ite (.or (.bool false) (.eq (.var "other") .nil)) (.ret (.bool false)) .skip

def equalProg (fs : List (String × Bool × Bool)) : Prog := .seq nilGuard (tailProg fs)

/-- the fields `BatchHeader.Equal` compares today -/
def keyFields : List (String × Bool × Bool) :=
  [("ServiceClassCode", false, true), ("CompanyName", true, false), ("CompanyIdentification", false, false),
   ("StandardEntryClassCode", false, false), ("CompanyEntryDescription", false, false), ("EffectiveEntryDate", false, false),
   ("ODFIIdentification", false, false)]

theorem equal_is_key_comparison : v_BatchHeader_Equal = equalProg keyFields := rfl

/-- normalised value of a key field: strings compared with EqualFold are upper-cased -/
def norm (k : Bool × Bool) (v : Val) : Option Val :=
  match v with
  | .int i => if k.2 && !k.1 then some (.int i) else none
  | .str s => if k.2 then none else if k.1 then (if allAscii s then some (.str (s.map toUpperAscii)) else none) else some (.str s)
  | _ => none

/-- the key of the header stored under path `p` -/
def key (c : Ctx) (p : String) (fs : List (String × Bool × Bool)) : List (Option Val) :=
  fs.map (fun f => norm f.2 (lookup c.fields (joinPath p f.1)))

def wellTyped (c : Ctx) (p : String) (fs : List (String × Bool × Bool)) : Prop := ∀ k ∈ key c p fs, k ≠ none

theorem seqs_cons (p : Prog) (ps : List Prog) (h : ps ≠ []) : seqs (p :: ps) = .seq p (seqs ps) :=
  seqs_cons_ne p ps h

theorem tailProg_cons (f : String × Bool × Bool) (fs : List (String × Bool × Bool)) :
    tailProg (f :: fs) = .seq (cmpStmt f) (tailProg fs) :=
  seqs_cons_ne _ _ (by simp)

theorem norm_cases {k : Bool × Bool} {v a : Val} (h : norm k v = some a) :
    (k = (false, true) ∧ ∃ i, v = .int i ∧ a = .int i) ∨
    (k = (false, false) ∧ ∃ s, v = .str s ∧ a = .str s) ∨
    (k = (true, false) ∧ ∃ s, v = .str s ∧ allAscii s = true ∧ a = .str (s.map toUpperAscii)) := by
  obtain ⟨fold, isInt⟩ := k
  unfold norm at h
  split at h <;> cases fold <;> cases isInt <;> simp at h
  · exact .inl ⟨rfl, _, rfl, h.symm⟩
  · exact .inr (.inl ⟨rfl, _, rfl, h.symm⟩)
  · exact .inr (.inr ⟨rfl, _, rfl, h.1, h.2.symm⟩)

theorem cmpStmt_exec (c : Ctx) (q : String) (l : Locals) (hl : lookup l "other" = .ref q) (f : String × Bool × Bool)
    (a b : Val) (ha : norm f.2 (lookup c.fields (joinPath c.recv f.1)) = some a)
    (hb : norm f.2 (lookup c.fields (joinPath q f.1)) = some b) :
    exec (cmpStmt f) c l = if a = b then (l, .next) else (l, .ret (.bool false)) := by
  obtain ⟨n, k⟩ := f
  -- both values are of the field's kind, so the comparison is defined and decides `a = b`
  rcases norm_cases ha with ⟨rfl, x, hx, rfl⟩ | ⟨rfl, s, hs, rfl⟩ | ⟨rfl, s, hs, hsA, rfl⟩
  · rcases norm_cases hb with ⟨_, y, hy, rfl⟩ | ⟨⟨⟩, _⟩ | ⟨⟨⟩, _⟩
    by_cases he : x = y <;> simp [cmpStmt, exec, eval, hl, hx, hy, cmpVals, he, scopeExit]
  · rcases norm_cases hb with ⟨⟨⟩, _⟩ | ⟨_, t, ht, rfl⟩ | ⟨⟨⟩, _⟩
    by_cases he : s = t <;> simp [cmpStmt, exec, eval, hl, hs, ht, cmpVals, he, scopeExit]
  · rcases norm_cases hb with ⟨⟨⟩, _⟩ | ⟨⟨⟩, _⟩ | ⟨_, t, ht, htA, rfl⟩
    by_cases he : s.map toUpperAscii = t.map toUpperAscii
    · simp [cmpStmt, exec, eval, hl, hs, ht, builtin2, hsA, htA, he, scopeExit]
    · simp [cmpStmt, exec, eval, hl, hs, ht, builtin2, hsA, htA, he, beq_eq_false_iff_ne.mpr he, scopeExit]

theorem tailProg_spec (c : Ctx) (q : String) (l : Locals) (hl : lookup l "other" = .ref q) :
    ∀ fs, wellTyped c c.recv fs → wellTyped c q fs →
      (exec (tailProg fs) c l).2 = .ret (.bool (decide (key c c.recv fs = key c q fs))) := by
  intro fs
  induction fs with
  | nil => intro _ _; simp [tailProg, seqs, exec, eval, key]
  | cons f fs ih =>
      intro h1 h2
      obtain ⟨a, ha⟩ := Option.ne_none_iff_exists'.mp (h1 _ (List.mem_cons_self ..))
      obtain ⟨b, hb⟩ := Option.ne_none_iff_exists'.mp (h2 _ (List.mem_cons_self ..))
      have ih' := ih (fun k hk => h1 k (List.mem_cons_of_mem _ hk)) (fun k hk => h2 k (List.mem_cons_of_mem _ hk))
      have hkey : key c c.recv (f :: fs) = key c q (f :: fs) ↔ a = b ∧ key c c.recv fs = key c q fs := by
        simp [key, ha, hb]
      have hstep := cmpStmt_exec c q l hl f a b ha hb
      rw [tailProg_cons]
      by_cases hab : a = b
      · rw [if_pos hab] at hstep
        rw [exec_seq_next hstep, ih']
        simp [hkey, hab]
      · rw [if_neg hab] at hstep
        rw [exec_seq_ret (congrArg Prod.snd hstep)]
        simp [hkey, hab]

/-- C08 / C09: `BatchHeader.Equal(a, b)` (a the receiver, b a non-nil header) is `true` exactly when the two headers
have the same key — for every pair of well-typed headers.  Hence it is reflexive, symmetric and transitive, and two
batches are merged together exactly when their keys coincide. -/
theorem equal_true_iff_same_key (c : Ctx) (q : String)
    (h1 : wellTyped c c.recv keyFields) (h2 : wellTyped c q keyFields) :
    (exec v_BatchHeader_Equal c [("other", .ref q)]).2 =
      .ret (.bool (decide (key c c.recv keyFields = key c q keyFields))) := by
  have hg : exec nilGuard c [("other", Val.ref q)] = ([("other", Val.ref q)], .next) := by
    simp [nilGuard, exec, eval, lookup, cmpVals, scopeExit]
  rw [equal_is_key_comparison, equalProg, exec_seq_next hg]
  exact tailProg_spec c q _ (by simp [lookup]) keyFields h1 h2

/-- non-vacuity: two concrete headers that differ only in the case of the company name are equal; changing the
effective entry date makes them different -/
def twoHeaders (date2 : String) : Ctx where
  fields := [("a.ServiceClassCode", .int 200), ("a.CompanyName", .str "Acme Corp".toList), ("a.CompanyIdentification", .str "121042882".toList),
    ("a.StandardEntryClassCode", .str "PPD".toList), ("a.CompanyEntryDescription", .str "PAYROLL".toList),
    ("a.EffectiveEntryDate", .str "240301".toList), ("a.ODFIIdentification", .str "12104288".toList),
    ("b.ServiceClassCode", .int 200), ("b.CompanyName", .str "ACME CORP".toList), ("b.CompanyIdentification", .str "121042882".toList),
    ("b.StandardEntryClassCode", .str "PPD".toList), ("b.CompanyEntryDescription", .str "PAYROLL".toList),
    ("b.EffectiveEntryDate", .str date2.toList), ("b.ODFIIdentification", .str "12104288".toList)]
  recvFlags := []
  paramFlags := []
  ext := []
  recv := "a"

example : (exec v_BatchHeader_Equal (twoHeaders "240301") [("other", .ref "b")]).2 = .ret (.bool true) := by decide +kernel
example : (exec v_BatchHeader_Equal (twoHeaders "240302") [("other", .ref "b")]).2 = .ret (.bool false) := by decide +kernel

/-- the same comparison with the roles exchanged: the context whose receiver is the header stored under `q` -/
def swapped (c : Ctx) (q : String) : Ctx := { c with recv := q }

/-- C08 / C09: `Equal` is symmetric — `a.Equal(b)` and `b.Equal(a)` return the same value, for every pair of well-typed
headers -/
theorem equal_symm (c : Ctx) (q : String)
    (h1 : wellTyped c c.recv keyFields) (h2 : wellTyped c q keyFields) :
    (exec v_BatchHeader_Equal c [("other", .ref q)]).2 =
      (exec v_BatchHeader_Equal (swapped c q) [("other", .ref c.recv)]).2 := by
  -- `swapped` changes the receiver only: the keys are those of `c`
  rw [equal_true_iff_same_key c q h1 h2, equal_true_iff_same_key (swapped c q) c.recv h2 h1]
  exact congrArg (fun b => Sig.ret (.bool b)) (decide_eq_decide.mpr eq_comm)

/-- C08 / C09: `Equal` is transitive — if `a.Equal(b)` and `b.Equal(c)` return true then so does `a.Equal(c)` -/
theorem equal_trans (c : Ctx) (q r : String)
    (h1 : wellTyped c c.recv keyFields) (h2 : wellTyped c q keyFields) (h3 : wellTyped c r keyFields)
    (hab : (exec v_BatchHeader_Equal c [("other", .ref q)]).2 = .ret (.bool true))
    (hbc : (exec v_BatchHeader_Equal (swapped c q) [("other", .ref r)]).2 = .ret (.bool true)) :
    (exec v_BatchHeader_Equal c [("other", .ref r)]).2 = .ret (.bool true) := by
  rw [equal_true_iff_same_key c q h1 h2] at hab
  rw [equal_true_iff_same_key (swapped c q) r h2 h3] at hbc
  have e1 : key c c.recv keyFields = key c q keyFields := of_decide_eq_true (Val.bool.inj (Sig.ret.inj hab))
  have e2 : key c q keyFields = key c r keyFields := of_decide_eq_true (Val.bool.inj (Sig.ret.inj hbc))
  rw [equal_true_iff_same_key c r h1 h3]
  simp [e1.trans e2]

/-- C08 / C09: `Equal` is reflexive -/
theorem equal_refl (c : Ctx) (h1 : wellTyped c c.recv keyFields) :
    (exec v_BatchHeader_Equal c [("other", .ref c.recv)]).2 = .ret (.bool true) := by
  rw [equal_true_iff_same_key c c.recv h1 h1]
  simp

end Ach.Props.HeaderKey
