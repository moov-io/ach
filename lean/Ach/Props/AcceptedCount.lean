import Ach.Props.Accepted
import Ach.Props.AddendaCount
/-!
# The entry/addenda count of an accepted batch is the number of its entry and addenda records (C03)

`Batch.isBatchEntryCount` adds `1 + entry.addendaCount()` over the entries and compares the sum with the control.  Its
translation is shown to be — today — the program below; the loop adds up the running count (`forEach_sums`), and
`addendaCount` is the function shown in `Ach.Props.AddendaCount` to count the entry's addenda records.  The function
around the loop is treated with `Batch.IsADV()`'s answer as a variable, so that the ADV half (`Ach.Props.AcceptedADV`)
only brings its own loop.
-/
namespace Ach.Props.AcceptedCount
open Ach Ach.GoLite Ach.Gen

def countBody : Prog :=
  seqs [(.subOn "_t1" (.var "entry") [] [] v_EntryDetail_addendaCount),
    (.assign "entryCount" (.add (.var "entryCount") (.add (.int 1) (.var "_t1"))))]

def countGuard (ctl : String) : Prog :=
  .ite (.ne (.var "entryCount") (.sel (.fld ctl) "EntryAddendaCount"))
    (seqs [(.ite (.flag "recv" "UnequalAddendaCounts") (.ret .nil) .skip), (.ret (.mkErr "EntryAddendaCount"))])
    .skip

def advCountLoop : Prog :=
  .forEach "entry" (.fld "ADVEntries")
    (seqs [(.assign "entryCount" (.add (.var "entryCount") (.int 1))),
      (.ite (.ne (.sel (.var "entry") "Addenda99") .nil) (.assign "entryCount" (.add (.var "entryCount") (.int 1))) .skip)])

def countProg : Prog :=
  seqs [(.bind "entryCount" (.int 0)),
    (.block (seqs [(.sub "_t2" [] [] v_Batch_IsADV),
      (.ite (.not (.var "_t2"))
        (seqs [(.forEach "entry" (.fld "Entries") countBody), countGuard "Control"])
        (seqs [advCountLoop, countGuard "ADVControl"]))])),
    (.ret .nil)]

theorem isBatchEntryCount_shape : v_Batch_isBatchEntryCount = countProg := rfl

/-- the addenda count of the entry stored under path `ep`, as the code computes it -/
def addendaCountOf (c : Ctx) (ep : String) : Option Int :=
  match (exec v_EntryDetail_addendaCount { c with recv := ep } []).2 with
  | .ret (.int k) => some k
  | _ => none

theorem addendaCountOf_some {c : Ctx} {ep : String} {k : Int} (h : addendaCountOf c ep = some k) :
    (exec v_EntryDetail_addendaCount { c with recv := ep } []).2 = .ret (.int k) := by
  unfold addendaCountOf at h
  split at h
  · rename_i k' hk
    rw [hk, Option.some.inj h]
  · simp at h

theorem countBody_exec (c : Ctx) {ep : String} {k : Int} (a : Int) (hk : addendaCountOf c ep = some k) :
    exec countBody c [("entry", .ref ep), ("_t2", .bool false), ("entryCount", .int a)] =
      ([("_t1", .int k), ("entry", .ref ep), ("_t2", .bool false), ("entryCount", .int (a + (1 + k)))], .next) := by
  simp [countBody, seqs, exec, eval, lookup, addendaCountOf_some hk, subResult, arith, update]

theorem countLoop_exec (c : Ctx) (p : String) (n : Nat) (cnt : Nat → Int)
    (hE : lookup c.fields (joinPath c.recv "Entries") = .lst p n)
    (hc : ∀ i, i < n → addendaCountOf c (elemPath p i) = some (cnt i)) :
    exec (.forEach "entry" (.fld "Entries") countBody) c [("_t2", .bool false), ("entryCount", .int 0)] =
      ([("_t2", .bool false), ("entryCount", .int ((List.range n).map (fun i => 1 + cnt i)).sum)], .next) := by
  rw [forEach_sums (fun a => [("_t2", .bool false), ("entryCount", .int a)]) (fun i => 1 + cnt i) 0
    (by simp [eval, hE]) (fun i hi a => step_of_exec [_, _] (countBody_exec c a (hc i hi)) rfl), Int.zero_add]

theorem countHalf_rejects (c : Ctx) {loop : Prog} {ctl cp : String} {l l1 : Locals} {K e : Int}
    (hflag : hasFlag c "recv" "UnequalAddendaCounts" = false)
    (hloop : exec loop c l = (l1, .next)) (hl : lookup l1 "entryCount" = .int K)
    (hC : lookup c.fields (joinPath c.recv ctl) = .ref cp)
    (he : lookup c.fields (joinPath cp "EntryAddendaCount") = .int e) (hne : K ≠ e) :
    (exec (.seq loop (countGuard ctl)) c l).2 = .ret (.err (some "EntryAddendaCount")) := by
  rw [exec_seq_next hloop]
  simp [countGuard, seqs, exec, eval, hl, hC, he, cmpVals, hflag, hne]

/-- `Batch.isBatchEntryCount()` returns nil, with `UnequalAddendaCounts` off, only if the control record of the batch's
kind carries the count `K` that the loop of that kind leaves in `entryCount` -/
theorem isBatchEntryCount_accepts (c : Ctx) (b : Bool) (hadv : (exec v_Batch_IsADV c []).2 = .ret (.bool b))
    (hflag : hasFlag c "recv" "UnequalAddendaCounts" = false) {cp : String} {K e : Int}
    (hloop : exec (bif b then advCountLoop else .forEach "entry" (.fld "Entries") countBody) c
        [("_t2", .bool b), ("entryCount", .int 0)] = ([("_t2", .bool b), ("entryCount", .int K)], .next))
    (hC : lookup c.fields (joinPath c.recv (bif b then "ADVControl" else "Control")) = .ref cp)
    (he : lookup c.fields (joinPath cp "EntryAddendaCount") = .int e)
    (h : (exec v_Batch_isBatchEntryCount c []).2 = .ret (.err none)) : e = K := by
  simp only [isBatchEntryCount_shape, countProg, seqs] at h
  rw [exec_seq_next (exec_bind_int ..)] at h
  by_cases heq : K = e
  · exact heq.symm
  · -- otherwise the half of the batch's kind returns the error, and with it the function
    rw [exec_seq_ret (v := .err (some "EntryAddendaCount"))] at h
    · cases h
    · rw [exec_callSwitch_sig hadv]
      cases b <;> exact countHalf_rejects c hflag hloop (by simp [lookup]) hC he heq

/-- the code's addenda count of an entry is the number of its addenda records (`Ach.Props.AddendaCount`) -/
theorem addendaCountOf_counts (c : Ctx) (ep : String) (vals : List Nat)
    (hv : Ach.Props.AddendaCount.entryItems.map (Ach.Props.AddendaCount.itemVal { c with recv := ep }) = vals.map some) :
    addendaCountOf c ep = some ((vals.sum : Nat) : Int) := by
  unfold addendaCountOf
  rw [Ach.Props.AddendaCount.addendaCount_counts_records { c with recv := ep } vals hv]

/-- the statement of `Batch.verify` that runs `isBatchEntryCount` is the fourth, and the three before it can only reject -/
theorem verify_runs_entry_count_check :
    (stmts v_Batch_verify).drop 3 = (.check none v_Batch_isBatchEntryCount) :: (stmts v_Batch_verify).drop 4 ∧
    (stmts v_Batch_verify).drop 4 ≠ [] ∧
    ((stmts v_Batch_verify).take 3).all (fun q => rejectOnly q && noAssign q) = true :=
  ⟨rfl, by decide +kernel, by decide +kernel⟩

/-- C03, entry/addenda count — for every standard (non-ADV) batch value, of any size: if `Batch.verify()` (translated
from the source on this run) returns nil and `UnequalAddendaCounts` is off, the control's entry/addenda count is the
number of entry records plus the number of their addenda records -/
theorem accepted_batch_entry_count (c : Ctx) (hp cp p : String) (n : Nat) (cnt : Nat → Int) (sec : Str) (e : Int)
    (hflag : hasFlag c "recv" "UnequalAddendaCounts" = false)
    (hH : lookup c.fields (joinPath c.recv "Header") = .ref hp)
    (hsec : lookup c.fields (joinPath hp "StandardEntryClassCode") = .str sec) (hnadv : sec ≠ ['A', 'D', 'V'])
    (hC : lookup c.fields (joinPath c.recv "Control") = .ref cp)
    (he : lookup c.fields (joinPath cp "EntryAddendaCount") = .int e)
    (hE : lookup c.fields (joinPath c.recv "Entries") = .lst p n)
    (hc : ∀ i, i < n → addendaCountOf c (elemPath p i) = some (cnt i))
    (ha : run c v_Batch_verify = .accept) :
    e = ((List.range n).map (fun i => 1 + cnt i)).sum :=
  isBatchEntryCount_accepts c false (Accepted.batch_isADV_false c hp sec hH hsec hnadv) hflag
    (countLoop_exec c p n cnt hE hc) hC he (run_passes_check Accepted.verify_statements.2 ha (k := 3) rfl)

end Ach.Props.AcceptedCount
