import Ach.Proofs.Mono
import Ach.Generated.Checks
import Ach.Props.Dispatch
/-!
# C15 — relaxation options only ever relax

* `accept_monotone_batch`, `accept_monotone_file` — on the validation model (`Ach.Model.Validate`, the arithmetic and
  equality checks of `Batch.verify` / `File.ValidateWith` with their option guards exactly as written; record-level
  checks are opaque, option-independent conjuncts): acceptance under `o` implies acceptance under every `o' ≥ o`,
  for all inputs and all pairs of option sets.
* `guards_only_relax` (F) — the census of *every* reference to one of the 15 relaxation flags in the non-test source of
  package ach (regenerated on every run): in validation code each reference is either `if !flag { …may reject… }`
  or `if flag { return nil }` — never the other polarity.  An inverted guard, or a new guard with tightening polarity,
  breaks this obligation.  This is what justifies treating the unmodelled record-level checks as monotone.
* `flag_list` (F) — the option structure still has the flags the property names.

* `reader_accept_monotone` — on the model of the Reader's record dispatcher (`Ach.ReaderSM`, tied by the `reader`
  stream): a record sequence `Read` accepts stays accepted when more of the record- and batch-level validations it
  runs succeed and when a missing file header / control becomes allowed.  With `guards_only_relax` (every validation
  can only succeed more often under a larger option set) this lifts monotonicity from `Validate` to `Read`.

Not covered by a theorem: that *parsing* (field extraction) is independent of the 15 flags (the Reader consults only
`PreserveSpaces`, `AllowMissingFileHeader/Control`, `SkipAll`); the oracle searches pairs O ⊆ O' on the real Reader.
-/
namespace Ach.Props.C15
open Ach.Gen

theorem accept_monotone_batch (o o' : Opts) (h : o.le o') (b : VBatch) :
    batchValidate o b = true → batchValidate o' b = true :=
  and_mono id <|
  and_mono (or_mono (or_mono h.customTraceNumbers h.bypassOrigin) id) <|
  and_mono id <| and_mono id <| and_mono id <|
  and_mono (or_mono h.customTraceNumbers id) <|
  and_mono (or_mono h.unequalAddendaCounts id) <|
  and_mono id <| and_mono id <|
  and_mono (or_mono h.bypassCompanyIdentificationMatch id) <|
  and_mono (or_mono h.unequalServiceClassCode id) <|
  and_mono (all_mono (entryOK_mono h) _) id

theorem accept_monotone_iat_batch (o o' : Opts) (h : o.le o') (b : VBatch) :
    iatBatchValidate o b = true → iatBatchValidate o' b = true :=
  and_mono (or_mono (or_mono h.customTraceNumbers h.bypassOrigin) id) <|
  and_mono id <| and_mono id <| and_mono id <|
  and_mono (or_mono h.customTraceNumbers id) <|
  and_mono (or_mono h.unequalAddendaCounts id) <|
  and_mono id <| and_mono id <|
  and_mono (or_mono h.unequalServiceClassCode id) id

theorem accept_monotone_file (o o' : Opts) (h : o.le o') (f : VFile) :
    fileValidate o f = true → fileValidate o' f = true :=
  or_mono h.skipAll <|
  and_mono id <|
  and_mono (or_mono (or_mono h.allowUnorderedBatchNumbers h.customTraceNumbers) id) <|
  and_mono id <| and_mono id <|
  and_mono (or_mono h.unequalAddendaCounts id) <|
  and_mono (or_mono h.allowMissingFileControl id) <|
  and_mono (all_mono (accept_monotone_batch o o' h) _) <|
  and_mono id (or_mono h.allowMissingFileHeader id)

open Ach.ReaderSM in
theorem reader_accept_monotone (rs : List Rec) (vs ws : List Bits) (hv : vs.length = rs.length) (hw : ws.length = rs.length)
    (hle : ∀ i (h1 : i < vs.length) (h2 : i < ws.length), Bits.le vs[i] ws[i])
    (allowNoHeader allowNoControl allowNoHeader' allowNoControl' : Bool)
    (ha : allowNoHeader = true → allowNoHeader' = true) (hb : allowNoControl = true → allowNoControl' = true)
    (h : (finish allowNoHeader allowNoControl (run init (rs.zip vs))).errs = []) :
    (finish allowNoHeader' allowNoControl' (run init (rs.zip ws))).errs = [] :=
  Dispatch.read_monotone rs vs ws hv hw hle _ _ _ _ ha hb h

def relaxationFlags : List String :=
  ["BypassOriginValidation", "BypassDestinationValidation", "CustomTraceNumbers", "AllowZeroBatches",
   "AllowMissingFileHeader", "AllowMissingFileControl", "BypassCompanyIdentificationMatch", "CustomReturnCodes",
   "UnequalServiceClassCode", "AllowUnorderedBatchNumbers", "AllowInvalidCheckDigit", "UnequalAddendaCounts",
   "AllowInvalidAmounts", "AllowZeroEntryAmount", "AllowSpecialCharacters"]

/-- functions that build or render rather than accept/reject: their flag references do not bear on acceptance -/
def notAcceptance (fn : String) : Bool :=
  fn = "Batch.build" || fn = "IATBatch.build" || fn = "File.Create" ||
  fn = "FileHeader.ImmediateDestinationField" || fn = "FileHeader.ImmediateOriginField"

/-- a reference relaxes when the flag switches a check off: `if !flag {check}` or `if flag {return nil}` -/
def relaxing (r : OptRef) : Bool :=
  (r.negated && (r.effect = "may-err" || r.effect = "return-err")) ||
  (!r.negated && r.effect = "return-nil")

theorem guards_only_relax :
    (optRefs.filter (fun r => relaxationFlags.contains r.flag && !notAcceptance r.fn)).all relaxing = true := by
  decide +kernel

/-- the census is not empty: every one of the 15 flags except AllowZeroBatches (consulted only by `File.Create`)
guards at least one acceptance check -/
theorem every_flag_guards_something :
    (relaxationFlags.filter (· ≠ "AllowZeroBatches")).all
      (fun f => optRefs.any (fun r => r.flag = f && !notAcceptance r.fn)) = true := by
  decide +kernel

theorem flag_list : relaxationFlags.all (fun f => optFlags.contains f) = true := by decide +kernel

/-- non-vacuity: a batch rejected under `{}` only for its service class mismatch is accepted once the flag is set -/
example : let b : VBatch := {
      header := ⟨220, "1234567890".toList, "12345678".toList, 1⟩,
      entries := [⟨22, "99999999".toList, "2".toList, 100, "123456780000001".toList, 0, true⟩],
      control := ⟨200, 1, 99999999, 0, 100, "1234567890".toList, "12345678".toList, 1⟩,
      extraOK := true }
    batchValidate {} b = false ∧ batchValidate { unequalServiceClassCode := true } b = true := by decide +kernel

end Ach.Props.C15
