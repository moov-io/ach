import Ach.Props.AcceptedEntries
import Ach.Props.AcceptedAddenda
/-!
# The return addenda of every entry of an accepted batch passed `Addenda99.Validate` (C03 / C15)
-/
namespace Ach.Props.AcceptedEntryAddenda
open Ach Ach.GoLite Ach.Gen Ach.Props.AcceptedEntries

def callAddenda99 : Prog :=
  .ite (.ne (.sel (.var "entry") "Addenda99") .nil)
    (.checkOn none (.sel (.var "entry") "Addenda99") [] [] v_Addenda99_Validate) .skip

/-- where the entry loop of `isFieldInclusion` validates the return addenda -/
theorem entry_body_validates_addenda99 :
    (stmts entryBody).drop 5 = callAddenda99 :: (stmts entryBody).drop 6 ∧
    ((stmts entryBody).take 5).all (fun q => isScope q && calm q) = true :=
  ⟨rfl, by decide +kernel⟩

/-- C03 / C15 — for every standard batch value of any size on which `Batch.verify()` (translated from the source on
this run) returns nil: the Addenda99 of every entry that has one passed `Addenda99.Validate()`; so, without
`CustomReturnCodes`, every return code in an accepted batch is a key of `returnCodeDict` -/
theorem accepted_batch_return_codes_known (c : Ctx) (hp p : String) (n : Nat) (sec : Str) (ap : Nat → String) (rc : Nat → Str)
    (hflag : hasFlag c "recv" "CustomReturnCodes" = false)
    (hH : lookup c.fields (joinPath c.recv "Header") = .ref hp)
    (hsec : lookup c.fields (joinPath hp "StandardEntryClassCode") = .str sec) (hnadv : sec ≠ ['A', 'D', 'V'])
    (hE : lookup c.fields (joinPath c.recv "Entries") = .lst p n)
    (ha : run c v_Batch_verify = .accept) :
    ∀ i, i < n → lookup c.fields (joinPath (elemPath p i) "Addenda99") = .ref (ap i) →
      lookup c.fields (joinPath (ap i) "ReturnCode") = .str (rc i) →
      Ach.Props.AcceptedAddenda.knownReturnCodes.contains (String.ofList (rc i)) = true := by
  intro i hi hA hR
  obtain ⟨l, hcall⟩ := entry_body_passes c hp p n sec hH hsec hnadv hE ha entry_body_validates_addenda99.1
    entry_body_validates_addenda99.2 i hi
  rw [callAddenda99, exec_ite_true (by simp [eval, lookup, hA, cmpVals])] at hcall
  have hv := checkOn_passes (p := ap i) (by simp [eval, lookup, hA]) hcall
  exact Ach.Props.AcceptedAddenda.accepted_addenda99_return_code { c with recv := ap i } (rc i) hflag hR (run_accept.mpr hv)

end Ach.Props.AcceptedEntryAddenda
