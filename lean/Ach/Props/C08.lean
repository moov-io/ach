import Ach.Proofs.Merge
import Ach.Generated.Pipeline
/-!
# C08 — merging conserves entries: nothing lost, duplicated or invented

Model `Ach.Model.Merge` of merge.go (`outFile.add` with `pickOutFile` / `findOutBatch` / the ordered map's `Set`,
and `convertToFiles`).  Entries are abstract (trace key, line count, amount, opaque payload); a batch header is the key
`BatchHeader.Equal` compares; a file header its (origin, destination) pair.

* `merge_conserves` — for every list of files (any length, any order, repeated files, colliding traces) the multiset of
  (route, header key, entry) triples accumulated equals the inputs' multiset;
* `merge_order_independent` — hence any permutation of the inputs gives the same multiset;
* `merge_separates_routes` — out-files have pairwise different routes, and every entry sits in the out-file of its own route;
* `convert_conserves` — `convertToFiles` writes each route's entries, in order, each into exactly one output batch,
  whatever the limits (splits inside a batch included).

Tie: body hashes of the merge functions (`merge_functions_unchanged`, regenerated); behavioural: the `merge`
correspondence stream, and the C08/C09 oracles, which compare multisets on the real `MergeFiles` over the same input
space.  Not in this model: `Batch.Create` on the output batches (C05), IAT/ADV batches (ignored by merge).  The header
key by which batches are joined and the merging of ValidateOpts are treated on the translated code, in
`Ach.Props.HeaderKey` and `Ach.Props.OptsMerge` (registered for C08 too).
-/
namespace Ach.Props.C08
open Ach.Merge

theorem merge_conserves (fs : List InFile) : (triplesOut (addFiles fs [])).Perm (triplesIn fs) := by
  simpa [triplesOut] using addFiles_perm fs []

theorem merge_order_independent (fs fs' : List InFile) (h : fs.Perm fs') :
    (triplesOut (addFiles fs [])).Perm (triplesOut (addFiles fs' [])) :=
  (merge_conserves fs).trans ((triplesIn_perm h).trans (merge_conserves fs').symm)

theorem merge_separates_routes (fs : List InFile) :
    routesDistinct (addFiles fs []) ∧
    ∀ o ∈ addFiles fs [], ∀ t ∈ batchTriples o.route o.batches, t.1 = o.route := by
  refine ⟨addFiles_distinct fs [] List.nodup_nil, ?_⟩
  intro o _ t ht
  obtain ⟨b, _, hb⟩ := List.mem_flatMap.1 ht
  obtain ⟨e, _, rfl⟩ := List.mem_map.1 hb
  rfl

theorem convert_conserves (c : Cond) (o : OutFile) :
    (convertOne c o).flatMap wfileEntries = o.batches.flatMap (·.entries) := convertOne_entries c o

/-- F: the merge functions the model mirrors are unchanged -/
theorem merge_functions_unchanged :
    (Ach.Gen.pipeHashes.filter (fun p => ["outFile.add", "convertToFiles", "pickOutFile", "findOutBatch", "MergeFilesWith"].contains p.1)) =
      [("outFile.add", 9671880382220691324), ("convertToFiles", 15561074837895817077),
       ("pickOutFile", 2740749275185348098), ("findOutBatch", 13694440567599775285), ("MergeFilesWith", 6631182081924706875)] := by decide +kernel

/-- non-vacuity: two files on one route with a colliding trace under the same header: three triples in, three out,
the colliding entry in a second batch -/
example : let f1 : InFile := ⟨(1, 2), [⟨7, [⟨1, 1, 100, 0⟩, ⟨2, 1, 50, 1⟩]⟩]⟩
          let f2 : InFile := ⟨(1, 2), [⟨7, [⟨1, 1, 30, 2⟩]⟩]⟩
    (addFiles [f1, f2] []).map (fun o => o.batches.map (fun b => b.entries.map (·.payload))) = [[[0, 1], [2]]] := by decide +kernel

end Ach.Props.C08
