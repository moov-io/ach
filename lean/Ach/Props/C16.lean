import Ach.Proofs.IO
import Ach.Generated.Sites
/-!
# C16 — I/O failures are reported, never swallowed

Model: `Ach.Model.IO` (I/O skeleton of writer.go `Write`/`writeBatch`/`writeIATBatch`/`writeLine`/`Flush` and of
reader.go `NewReaderWithContentType`/`Read`); lemmas: `Ach.Proofs.IO`; correspondence stream `io`
(`Ach.Model.IODriver`): the real Writer/Reader over fault-injecting `io.Writer`/`io.Reader`.

Writer (all three clauses hold, for *every* way of checking or dropping intermediate error results, as long as
`Write` ends in `return w.w.Flush()` — the sticky error of `bufio.Writer` does the rest):
* `write_reports_failure`, `write_ok_complete`, `write_error_at_flush_only`; `flush_result_needed_counterexample`
  shows that the hypothesis read off the facts (`code_policy`) is load-bearing.
Reader:
* `read_reports_failure` — any error other than `io.EOF` / `io.ErrUnexpectedEOF`, at every offset: reported;
* `read_reports_unexpectedEOF_partial` — `io.ErrUnexpectedEOF` at offset ≥ 1024: reported;
* `read_swallows_unexpectedEOF_in_sniff` / `read_unexpectedEOF_counterexample` — **the code violates the clause here**: an underlying
  reader that fails with `io.ErrUnexpectedEOF` within the first 1024 bytes is taken for a short file by
  `charset.NewReader` (`io.ReadFull` cannot tell the two apart); `Read` reports no I/O error and parses the prefix.
* `read_ok_complete` — no failure: every byte reaches the parser.

## Trusted / modelled, not verified
* the contracts of `bufio.Writer` (`Flush`, `WriteString`, `Available`; default size 4096), `io.ReadFull`,
  `io.MultiReader`, `bytes.Reader`, `bufio.Scanner` + `ScanRunes`, `transform.Reader` (passes the source's error on after
  the data), and of x/net `charset.NewReader`, as transcribed in the header of `Ach.Model.IO`;
* the fault injectors: the underlying writer is a plain `io.Writer` (no `WriteString` method); the underlying reader's
  failure is persistent (every later `Read` returns `(0, err)` again);
* that `Write`'s calls are exactly the `writeLine` sequence + padding loop + final `Flush` (early `return err` only with a
  non-nil `err`): pinned by `writer_functions_unchanged` (body hashes), not re-derived from the AST;
* `NewReaderWithContentType` and `NewWriterWithOpts` are not in `ioFuncs` (only in `driftHashes`, a table of several hundred string
  keys, too slow to `decide` over): the way the constructor error of `charset.NewReader` is handled is modelled from the
  source text and checked by the `io` stream only;
* record contents (`String()`), `file.Validate()` (runs before any I/O) and the line parser are not part of this model.
-/
namespace Ach.Props.C16
open Ach.IO Ach.Gen

variable {α : Type}

/-- F: no `Write`/`WriteString`/`Flush`/`writeBatch`/`writeIATBatch` result is discarded anywhere in the Writer, and
`Write`'s last statement is `return w.w.Flush()` (receiver normalised to `r` by the generator) -/
theorem code_policy : policyOf ioFuncs = { checkLineWS := true, checkPadWS := true, checkCalls := true, returnsFlush := true } := by
  decide +kernel

theorem write_ends_in_flush : (policyOf ioFuncs).returnsFlush = true := congrArg Policy.returnsFlush code_policy

/-- F: `Reader.Read` consults `scanner.Err()`; the only discarded result is `bytes.Buffer.WriteString` (never fails) -/
theorem read_checks_scanner_err :
    checksScannerErr ioFuncs = true ∧ dropped ioFuncs "Reader.Read" = ["currentLine.WriteString"] := by decide +kernel

/-- F: the functions the model was written against -/
theorem writer_functions_unchanged :
    (ioFuncs.filter (fun f => f.fn.startsWith "Writer.")).map (fun f => (f.fn, f.lastReturn, f.hash)) =
      [("Writer.Write", "return r.w.Flush()", 647901554185630992),
       ("Writer.Flush", "return r.w.Flush()", 1266472369869030050),
       ("Writer.writeBatch", "return nil", 11647795274641545808),
       ("Writer.writeIATBatch", "return nil", 16352563860775370297),
       ("Writer.writeLine", "return nil", 8220964415537587164)] := by
  decide +kernel  -- not `rfl` as below: `String.startsWith` does not unfold for the elaborator

theorem reader_functions_unchanged :
    (ioFuncs.filter (fun f => ["Reader.Read", "NewReader", "NewWriter"].contains f.fn)).map (fun f => (f.fn, f.lastReturn, f.hash)) =
      [("Reader.Read", "return r.File, r.errors", 14029065647283193467),
       ("NewReader", "return NewReaderWithContentType(r, \"text/plain\")", 3010030418815538912),
       ("NewWriter", "return NewWriterWithOpts(w, nil)", 17891989422190391091)] := by rfl

/-- the writer `NewWriterWithOpts` builds over an underlying writer that will accept `k` more bytes -/
def fresh (cap k : Nat) (mode : Mode) : W α := newWriter cap { mode := mode, room := k, got := [] }

/-- for any policy of checking or dropping the intermediate results an underlying writer that accepts fewer bytes than
the output makes `Write` fail: only the final `return w.w.Flush()` matters, because the error of `bufio.Writer` is sticky -/
theorem write_reports_failure_any_policy (p : Policy) (hp : p.returnsFlush = true) (cfg : Cfg α) (f : WFile α)
    (cap k : Nat) (mode : Mode) (hk : k < (render cfg f).length) : (write p cfg f (fresh cap k mode)).2 ≠ none :=
  write_fails p hp cfg f _ (by simpa [fresh, newWriter] using hk)

/-- clause "if the underlying io.Writer fails at any offset, Write (or the Flush that follows) returns an error": for
every file, every line ending, every buffer size, every offset `k` smaller than the size of the output and every fault
mode (hard error, short write without error, short write with `io.ErrShortWrite`), `Write` returns an error. -/
theorem write_reports_failure (cfg : Cfg α) (f : WFile α) (cap k : Nat) (mode : Mode)
    (hk : k < (render cfg f).length) : (write (policyOf ioFuncs) cfg f (fresh cap k mode)).2 ≠ none :=
  write_reports_failure_any_policy _ write_ends_in_flush cfg f cap k mode hk

/-- a second `Write` on the same Writer appends: success means the stream is the old output followed by the new file -/
theorem write_ok_complete_general (p : Policy) (hp : p.returnsFlush = true) (cfg : Cfg α) (f : WFile α) (w : W α)
    (h : (write p cfg f w).2 = none) :
    (write p cfg f w).1.bw.wr.got = w.bw.wr.got ++ w.bw.buf ++ render cfg f ∧ (write p cfg f w).1.bw.buf = [] :=
  ⟨(write_ok p hp cfg f w h).1, (write_ok p hp cfg f w h).2.1⟩

/-- clause "never reports success for output that was not completely written": if `Write` returns nil, the underlying
writer has received exactly the rendering of the file — every record followed by the line ending, in order, then the
nines padding — nothing more, nothing less, nothing left in the buffer. -/
theorem write_ok_complete (cfg : Cfg α) (f : WFile α) (cap k : Nat) (mode : Mode)
    (h : (write (policyOf ioFuncs) cfg f (fresh cap k mode)).2 = none) :
    (write (policyOf ioFuncs) cfg f (fresh cap k mode)).1.bw.wr.got = render cfg f ∧
    (write (policyOf ioFuncs) cfg f (fresh cap k mode)).1.bw.buf = [] := by
  have := write_ok_complete_general _ write_ends_in_flush cfg f _ h
  exact ⟨by simpa [fresh, newWriter] using this.1, this.2⟩

/-- clause "errors that appear only at Flush": a file that fits the buffer with 94 bytes to spare causes no underlying
write before the last statement — no `WriteString`/`writeLine` can fail, the body ends without error with the whole
rendering buffered — so a failing writer can only be noticed by the final `Flush`; `Write` returns precisely that
`Flush`'s result, and it is an error for every `k < total`. -/
theorem write_error_at_flush_only (cfg : Cfg α) (f : WFile α) (cap k : Nat) (mode : Mode)
    (hfit : (render cfg f).length + 94 ≤ cap) (hk : k < (render cfg f).length) :
    let body := writeBody (policyOf ioFuncs) cfg f (fresh cap k mode)
    body.2 = none ∧ body.1.bw.wr.got = [] ∧ body.1.bw.buf = render cfg f ∧ body.1.bw.err = none ∧
    (write (policyOf ioFuncs) cfg f (fresh cap k mode)).2 = body.1.bw.flush.2 ∧ body.1.bw.flush.2 ≠ none := by
  -- `body` is zeta-reduced away first: matching a projection of the `let` variable makes Lean unfold `writeBody`
  dsimp only
  obtain ⟨h2, he, hu, hb⟩ := (writeBody_post (policyOf ioFuncs) cfg f (fresh cap k mode)).quiet rfl
    (by simpa [fresh, newWriter] using hfit)
  have hw := write_ret_flush _ write_ends_in_flush cfg f (fresh cap k mode) h2
  exact ⟨h2, congrArg Under.got hu, hb.trans (List.nil_append _), he, hw,
    hw ▸ write_reports_failure cfg f cap k mode hk⟩

/-- the hypothesis taken from the facts is needed: were the last statement `w.w.Flush(); return nil`, a one-record file
written to a writer that accepts nothing would be reported as success -/
theorem flush_result_needed_counterexample :
    (write { checkLineWS := true, checkPadWS := true, checkCalls := true, returnsFlush := false }
      { ending := [10], padLine := [57, 57] } { header := [49, 48], batches := [], iat := [], control := [] }
      (fresh 4096 0 .hard : W Nat)).2 = none := by decide +kernel

/-- non-vacuity of `write_reports_failure` / `write_error_at_flush_only`: two records + eight padding lines = 33 bytes;
the writer fails after 7; cap 4096 -/
example : let cfg : Cfg Nat := { ending := [13, 10], padLine := [57] }
    let f : WFile Nat := { header := [49, 48, 49], batches := [[]], iat := [], control := [57, 48] }
    (render cfg f).length = 33 ∧ (render cfg f).length + 94 ≤ 4096 ∧
    (write (policyOf ioFuncs) cfg f (fresh 4096 7 .short)).2 = some .shortWrite ∧
    (write (policyOf ioFuncs) cfg f (fresh 4096 7 .short)).1.bw.wr.got = [49, 48, 49, 13, 10, 57, 48] := by
  rw [code_policy]
  decide +kernel

/-- non-vacuity of `write_ok_complete`, with a buffer so small that lines are flushed in pieces -/
example : let cfg : Cfg Nat := { ending := [10], padLine := [57, 57, 57] }
    let f : WFile Nat := { header := [1, 2, 3, 4, 5, 6, 7], batches := [[8, 9], []], iat := [[10]], control := [11, 12] }
    (write (policyOf ioFuncs) cfg f (fresh 5 1000 .hard)).2 = none ∧
    (write (policyOf ioFuncs) cfg f (fresh 5 1000 .hard)).1.bw.wr.got = render cfg f := by
  rw [code_policy]
  decide +kernel

/-- the model's buffer never exceeds its capacity and `WriteString`'s loop stops by its own condition (the recursion
fuel of the model is never the reason) -/
theorem bufio_model_wellformed (b : BW α) (s : List α) (h : b.Wf) :
    b.flush.1.Wf ∧ (b.writeString s).1.Wf ∧
    ((b.wsLoop (s.length + 1) s).1.err = none → (b.wsLoop (s.length + 1) s).2.length ≤ (b.wsLoop (s.length + 1) s).1.avail) :=
  ⟨flush_wf b h, writeString_wf b s h, (wsLoop_exit _ b s h (fun _ => by split <;> omega)).2⟩

/-- the underlying reader fails: it has `total` bytes but returns `e` after delivering `k ≤ total` of them -/
def failing (total k : Nat) (e : RErr) (chunk : Nat) : Plan := { total := total, k := k, e := e, chunk := chunk }

/-- clause "if the underlying io.Reader fails at any byte offset, Read returns an error instead of a silently shortened
file", for every error value other than `io.EOF`/`io.ErrUnexpectedEOF`: whatever the offset `k ≤ total` and however the
reader chunks its data, `Read` returns an error — "nil scanner" when the failure hits `charset.NewReader`'s 1024-byte
pre-read (the constructor error is kept in `r.errors` and the scanner stays nil), the reader's own error from
`scanner.Err()` otherwise. -/
theorem read_reports_failure (total k chunk : Nat) (hk : k ≤ total) :
    (readFile (checksScannerErr ioFuncs) (failing total k .other chunk)).isErr = true ∧
    readFile (checksScannerErr ioFuncs) (failing total k .other chunk) =
      if k < sniffLen then .errNilScanner else .errScan .other k := by
  rw [read_checks_scanner_err.1, readFile_failed (failing total k .other chunk) hk]
  by_cases h : sniffLen ≤ k
  · simp [failing, h, ReadRes.isErr, Nat.not_lt.mpr h]
  · simp [failing, h, ReadRes.isErr, Nat.lt_of_not_le h]

/- Full statement wanted for `io.ErrUnexpectedEOF` too:
     ∀ total k chunk, k ≤ total → (readFile … (failing total k .unexpectedEOF chunk)).isErr = true
   It is false for k < 1024 (`read_swallows_unexpectedEOF_in_sniff`); proved for 1024 ≤ k: -/
/-- a reader failing with `io.ErrUnexpectedEOF` after at least 1024 bytes is reported -/
theorem read_reports_unexpectedEOF_partial (total k chunk : Nat) (hk : k ≤ total) (hs : sniffLen ≤ k) :
    readFile (checksScannerErr ioFuncs) (failing total k .unexpectedEOF chunk) = .errScan .unexpectedEOF k := by
  rw [read_checks_scanner_err.1, readFile_failed (failing total k .unexpectedEOF chunk) hk]
  simp [failing, hs]

/-- **violation**: a reader failing with `io.ErrUnexpectedEOF` after `k < 1024` bytes (k ≤ total) makes `Read` report no
I/O error; the first `k` bytes are parsed as if they were the whole file -/
theorem read_swallows_unexpectedEOF_in_sniff (total k chunk : Nat) (hk : k ≤ total) (hs : k < sniffLen) :
    readFile (checksScannerErr ioFuncs) (failing total k .unexpectedEOF chunk) = .ok k := by
  rw [read_checks_scanner_err.1, readFile_failed (failing total k .unexpectedEOF chunk) hk]
  simp [failing, Nat.not_le.mpr hs]

/-- the concrete witness: 950-byte file (ten records), connection cut after 500 bytes with `io.ErrUnexpectedEOF` -/
theorem read_unexpectedEOF_counterexample :
    (readFile true (failing 950 500 .unexpectedEOF 0)).isErr = false ∧
    readFile true (failing 950 500 .unexpectedEOF 0) = .ok 500 := by decide +kernel

/-- without a failure every byte reaches the parser; and whenever `Read` reports no I/O error on a reader whose failure
value is not `io.EOF`/`io.ErrUnexpectedEOF`, there was no failure and nothing was cut -/
theorem read_ok_complete (total k chunk : Nat) (e : RErr) :
    (total < k → readFile (checksScannerErr ioFuncs) (failing total k e chunk) = .ok total) ∧
    (∀ n, readFile (checksScannerErr ioFuncs) (failing total k .other chunk) = .ok n → total < k ∧ n = total) := by
  rw [read_checks_scanner_err.1]
  refine ⟨readFile_complete (failing total k e chunk), fun n h => ?_⟩
  by_cases hk : k ≤ total
  · have := (read_reports_failure total k chunk hk).1
    rw [read_checks_scanner_err.1, h] at this
    simp [ReadRes.isErr] at this
  · have hk : total < k := Nat.lt_of_not_le hk
    exact ⟨hk, ReadRes.ok.inj (h.symm.trans (readFile_complete (failing total k .other chunk) hk))⟩

/-- the fact is needed: without the `scanner.Err()` test a failure after the pre-read would be a silently shortened file -/
theorem scanner_err_check_needed_counterexample :
    readFile false (failing 3000 2000 .other 0) = .ok 2000 ∧ readFile true (failing 3000 2000 .other 0) = .errScan .other 2000 := by
  decide +kernel

/-- non-vacuity: failures inside and outside the pre-read window, chunked reader -/
example : readFile true (failing 950 949 .other 7) = .errNilScanner ∧
    readFile true (failing 5000 4999 .other 100) = .errScan .other 4999 ∧
    readFile true (failing 5000 5001 .other 100) = .ok 5000 := by decide +kernel

end Ach.Props.C16
