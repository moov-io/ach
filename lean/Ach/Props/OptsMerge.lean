import Ach.Proofs.GoLite
import Ach.Generated.Checks
import Ach.Props.Validators
/-!
# `ValidateOpts.merge` is the field-wise OR (shared by C08, C09)

`outFile.add` gives a merged file, and a merged batch that takes entries from several input files, the options
`a.merge(b)` of the files that contributed.  `merge` is read from the source on every run (`optsMergeRows`: one row
`F: v.L || other.R` per key of the literal it returns; `optsMergeNilGuards`: the two `nil` guards; `optsMergeLaterAssigned`:
what the statements after the literal assign).  Here it is shown to be — today — the OR of every boolean field of
`ValidateOpts` with itself (`opts_merge_is_pointwise_or`, by evaluation); every such merge keeps every flag either side
had (`merged_has_left`, `merged_has_right`), adds none neither side had (`merged_only_from_sides`), and so a batch or
file that its own file's options accept is accepted under the merged options (`merged_opts_keep_acceptance`, through
`run_mono`): entries whose trace numbers, amounts or return codes were admitted by an option of their input file are
neither rejected (C09) nor renumbered (C08: `CustomTraceNumbers`, `BypassOriginValidation`) when they share an output
batch with entries of a file that did not have the option.  A row that reads another field, a field without a row or a
statement that resets a boolean field afterwards breaks the first obligation.
-/
namespace Ach.Props.OptsMerge
open Ach Ach.GoLite Ach.Gen

/-- the flags of `a.merge(b)` for a merge given by rows (field, receiver field, argument field) -/
def mergeFlags (rows : List (String × String × String)) (a b : List String) : List String :=
  rows.filterMap (fun r => if a.contains r.2.1 || b.contains r.2.2 then some r.1 else none)

def pointwise (fs : List String) : List (String × String × String) := fs.map (fun f => (f, f, f))

/-- the `ValidateOpts.merge` in the tree: nil guards first, then a literal that ORs every boolean field with itself,
then statements that only assign the (non-boolean) `CheckTransactionCode`, then `return out` -/
theorem opts_merge_is_pointwise_or :
    optsMergeShape = true ∧ optsMergeNilGuards = true ∧ optsMergeRows = pointwise optBoolFlags ∧
    optsMergeLaterAssigned.all (fun f => !optBoolFlags.contains f && optFlags.contains f) = true :=
  ⟨rfl, rfl, rfl, by decide +kernel⟩

/-- every relaxation flag the validators read is a boolean field of `ValidateOpts`, so it has a row -/
theorem relax_flags_have_rows : relaxFlags.all (fun f => optBoolFlags.contains f) = true := by decide +kernel

theorem mem_mergeFlags_pointwise (fs a b : List String) (f : String) :
    f ∈ mergeFlags (pointwise fs) a b ↔ f ∈ fs ∧ (f ∈ a ∨ f ∈ b) := by
  simp [mergeFlags, pointwise, List.mem_filterMap]

/-- C08 / C09: the merged options keep every boolean option of the receiver … -/
theorem merged_has_left (fs a b : List String) (f : String) (hf : f ∈ fs) (ha : f ∈ a) :
    f ∈ mergeFlags (pointwise fs) a b := (mem_mergeFlags_pointwise fs a b f).mpr ⟨hf, Or.inl ha⟩

/-- … and of the argument (the file merged in later), … -/
theorem merged_has_right (fs a b : List String) (f : String) (hf : f ∈ fs) (hb : f ∈ b) :
    f ∈ mergeFlags (pointwise fs) a b := (mem_mergeFlags_pointwise fs a b f).mpr ⟨hf, Or.inr hb⟩

/-- … and has no option neither side had -/
theorem merged_only_from_sides (fs a b : List String) (f : String) (h : f ∈ mergeFlags (pointwise fs) a b) :
    f ∈ a ∨ f ∈ b := ((mem_mergeFlags_pointwise fs a b f).mp h).2

/-- merging is independent of the order of the two files (as far as the boolean options go) -/
theorem merged_comm (fs a b : List String) (f : String) :
    f ∈ mergeFlags (pointwise fs) a b ↔ f ∈ mergeFlags (pointwise fs) b a := by
  rw [mem_mergeFlags_pointwise, mem_mergeFlags_pointwise, or_comm]

/-- the context in which the receiver's stored options are replaced by the merged ones.  The other file may bring
relaxations; of the non-relaxation options (`SkipAll`, `RequireABAOrigin`, `PreserveSpaces`) it may bring only those the
receiver has too (`hstrict`) — `RequireABAOrigin` makes validation stricter, so a file valid without it may be invalid
with it. -/
theorem merged_ctx_le (c : Ctx) (other : List String)
    (hown : ∀ f ∈ c.recvFlags, f ∈ optBoolFlags)
    (hstrict : ∀ f ∈ other, relaxFlags.contains f = false → f ∈ c.recvFlags) :
    CtxLe c { c with recvFlags := mergeFlags (pointwise optBoolFlags) c.recvFlags other } :=
  CtxLe.recvFlags c _ (fun n h hn => (merged_only_from_sides _ _ _ n h).elim id (fun h => hstrict n h hn))
    (fun n h => merged_has_left _ _ _ _ (hown n h) h)

/-- C08 / C09: whatever a translated validator (record, batch, IAT batch, file) accepts under the options stored with the
receiver, it accepts when those options are replaced by their merge with another file's options -/
theorem merged_opts_keep_acceptance (name : String) (p : Prog) (hmem : (name, p) ∈ validatorProgs)
    (c : Ctx) (other : List String)
    (hown : ∀ f ∈ c.recvFlags, f ∈ optBoolFlags)
    (hstrict : ∀ f ∈ other, relaxFlags.contains f = false → f ∈ c.recvFlags)
    (ha : run c p = .accept) :
    run { c with recvFlags := mergeFlags (pointwise optBoolFlags) c.recvFlags other } p = .accept :=
  Ach.Props.Validators.record_validators_monotone name p hmem c _ (merged_ctx_le c other hown hstrict) ha

/-- non-vacuity: a file that only had `AllowZeroEntryAmount`, merged into one that had `CustomTraceNumbers`, has both -/
example : mergeFlags optsMergeRows ["CustomTraceNumbers"] ["AllowZeroEntryAmount"] = ["CustomTraceNumbers", "AllowZeroEntryAmount"] := by
  decide +kernel

end Ach.Props.OptsMerge
