import Ach.Props.C03Code
import Ach.Props.C03IATCode
import Ach.Props.C03IATSample
import Ach.Props.AcceptedADV
/-!
# A batch whose control no longer matches its entries is refused (C04), standard, ADV and IAT, on the translated code

Contrapositives of `c03_standard_batch`, `c03_iat_batch` and `accepted_adv_batch`, stated once per batch kind: if **any** of the protected
figures of a stored batch differs from the value recomputed from its entries — however the difference came about (a
changed digit in a control record, in an amount, in a routing number, in a check digit, in a header) — then
`Batch.verify()` / `IATBatch.verify()` as translated from the source on this run does not return nil under the default
options (for ADV batches: with `UnequalAddendaCounts` off).  Batches of any size.
-/
namespace Ach.Props.TamperRejectedBatch
open Ach Ach.GoLite Ach.Gen Ach.Props.C03Code Ach.Props.C03IATCode

/-- the protected figures of a standard batch all agree with its entries -/
def StdConsistent {c : Ctx} (B : StdBatch c) : Prop :=
  B.count = ((List.range B.n).map (fun i => 1 + B.cnt i)).sum ∧
  B.hash = leastSignificantDigits (((List.range B.n).map (fun i => Ach.Props.AcceptedHash.rdfiNumber (B.rdfi i))).sum) 10 ∧
  B.credit = ((List.range B.n).map (fun i => Ach.Props.AcceptedAmounts.creditPart (B.tc i) (B.am i))).sum ∧
  B.debit = ((List.range B.n).map (fun i => Ach.Props.AcceptedAmounts.debitPart (B.tc i) (B.am i))).sum ∧
  B.hscc = B.cscc ∧ B.hodfi = B.codfi ∧ B.hbn = B.cbn ∧ B.hcid = B.ccid ∧
  (∀ i, i < B.n → atoi (B.cd i) = some (calculateCheckDigit (stringField (B.rdfi i) 8)))

/-- C04, standard batches: an inconsistent batch is not accepted -/
theorem tampered_standard_batch_rejected (c : Ctx) (B : StdBatch c) (hdef : defaultOpts c) (hbad : ¬ StdConsistent B) :
    run c v_Batch_verify ≠ .accept := by
  intro ha
  obtain ⟨k1, k2, k3, k4, a1, a2, a3, a4, e1, _, _, _⟩ := c03_standard_batch c B hdef ha
  exact hbad ⟨k1, k2, k3, k4, a1, a2, a3, a4, e1⟩

/-- the protected figures of an IAT batch all agree with its entries -/
def IATConsistent {c : Ctx} (B : IATStd c) : Prop :=
  B.count = ((List.range B.n).map (fun i => (B.recs i).sum)).sum ∧
  B.hash = leastSignificantDigits (((List.range B.n).map (fun i => Ach.Props.AcceptedHash.rdfiNumber (B.rdfi i))).sum) 10 ∧
  B.credit = ((List.range B.n).map (fun i => Ach.Props.AcceptedAmounts.creditPart (B.tc i) (B.am i))).sum ∧
  B.debit = ((List.range B.n).map (fun i => Ach.Props.AcceptedAmounts.debitPart (B.tc i) (B.am i))).sum ∧
  B.hscc = B.cscc ∧ B.hodfi = B.codfi ∧ B.hbn = B.cbn ∧
  (∀ i, i < B.n → atoi (B.cd i) = some (calculateCheckDigit (stringField (B.rdfi i) 8)))

/-- C04, IAT batches: an inconsistent IAT batch is not accepted -/
theorem tampered_iat_batch_rejected (c : Ctx) (B : IATStd c) (hdef : defaultOpts c) (hbad : ¬ IATConsistent B) :
    run c v_IATBatch_verify ≠ .accept := by
  intro ha
  obtain ⟨k1, k2, k3, k4, a1, a2, a3, e1, _, _⟩ := c03_iat_batch c B hdef ha
  exact hbad ⟨k1, k2, k3, k4, a1, a2, a3, e1⟩

/-- in particular a control whose credit total is not the sum over the entries is refused — what is left of a consistent
batch when the amount of one credit entry is changed by any non-zero difference and nothing else touched (the credit and
debit code lists are disjoint, so an amount enters at most one total; stated for the credit total) -/
theorem changed_credit_amount_rejected (c : Ctx) (B : StdBatch c) (hdef : defaultOpts c)
    (total : Int) (hsum : ((List.range B.n).map (fun i => Ach.Props.AcceptedAmounts.creditPart (B.tc i) (B.am i))).sum = total)
    (hne : B.credit ≠ total) : run c v_Batch_verify ≠ .accept :=
  tampered_standard_batch_rejected c B hdef fun h => hne (h.2.2.1.trans hsum)

open Ach.Props.AcceptedADV Ach.Props.AcceptedHash in
/-- C04, ADV batches: if a total, the entry hash or (without `UnequalAddendaCounts`) the entry/addenda count of the ADV
control differs from the sum over the advices, the translated `Batch.verify()` does not return nil — any number of advices -/
theorem tampered_adv_batch_rejected (c : Ctx) (hp cp p : String) (n : Nat) (tc am : Nat → Int) (r : Nat → Str)
    (hv cnt : Nat → Int) (tcr tdb e k : Int)
    (hH : lookup c.fields (joinPath c.recv "Header") = .ref hp)
    (hsec : lookup c.fields (joinPath hp "StandardEntryClassCode") = .str ['A', 'D', 'V'])
    (hC : lookup c.fields (joinPath c.recv "ADVControl") = .ref cp)
    (hcr : lookup c.fields (joinPath cp "TotalCreditEntryDollarAmount") = .int tcr)
    (hdb : lookup c.fields (joinPath cp "TotalDebitEntryDollarAmount") = .int tdb)
    (he : lookup c.fields (joinPath cp "EntryHash") = .int e)
    (hk : lookup c.fields (joinPath cp "EntryAddendaCount") = .int k)
    (hE : lookup c.fields (joinPath c.recv "ADVEntries") = .lst p n)
    (ht : ∀ i, i < n → lookup c.fields (joinPath (elemPath p i) "TransactionCode") = .int (tc i))
    (ham : ∀ i, i < n → lookup c.fields (joinPath (elemPath p i) "Amount") = .int (am i))
    (hr : ∀ i, i < n → lookup c.fields (joinPath (elemPath p i) "RDFIIdentification") = .str (r i))
    (hc : ∀ i, i < n → rdfiContribution c (r i) = some (hv i))
    (hcn : ∀ i, i < n → advRecords c (elemPath p i) = some (cnt i))
    (hflag : hasFlag c "recv" "UnequalAddendaCounts" = false)
    (hbad : tcr ≠ ((List.range n).map (fun i => advCredit (tc i) (am i))).sum ∨
            tdb ≠ ((List.range n).map (fun i => advDebit (tc i) (am i))).sum ∨
            e ≠ leastSignificantDigits (((List.range n).map hv).sum) 10 ∨
            k ≠ ((List.range n).map cnt).sum) :
    run c v_Batch_verify ≠ .accept := by
  intro ha
  obtain ⟨h1, h2, h3, h4⟩ := accepted_adv_batch c hp cp p n tc am r hv cnt tcr tdb e k hH hsec hC hcr hdb he hk hE ht ham hr hc hcn ha
  rcases hbad with h | h | h | h
  · exact h h1
  · exact h h2
  · exact h h3
  · exact h (h4 hflag)

/-- the sample IAT batch with one digit of its control hash changed -/
def tamperedIAT : Ctx :=
  { Ach.Props.C03IATSample.iatSample with
    fields := ("Control.EntryHash", .int 29968351) :: Ach.Props.C03IATSample.iatSample.fields }

/-- non-vacuity, by evaluation (done once for the sample, in `iat_sample_evaluated`): it is refused by the translated
`IATBatch.verify`, with the error naming the field (a test on one batch, not the theorem) -/
theorem tampered_sample_rejected : run tamperedIAT v_IATBatch_verify = .reject "EntryHash" :=
  Ach.Props.C03IATSample.iat_sample_evaluated.1.2

end Ach.Props.TamperRejectedBatch
