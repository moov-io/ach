import Ach.Props.C03Code
import Ach.Props.ModelBridge
import Ach.Props.DirBridge
import Ach.Props.C03
import Ach.Props.C03CodeSample
/-!
# What the code accepts, the hand-written model accepts (C03, standard batches)

`Ach.batchValidate` (`Ach/Model/Validate.lean`) is the hand-written model that `validate_sound_batch` and the tamper theorems of
C04 speak about; the `validate` correspondence stream ties it to the real code on sampled batches.  Here the
tie is a theorem, in the direction soundness needs: for a non-empty standard batch of any size stored in a context, **if
`Batch.verify()` as translated from the source on this run returns nil under the default options, then
`batchValidate {}` holds of the model batch read off the same fields** (`toModel`).  Every consequence the model theorems
draw from `batchValidate {} b = true` therefore holds of every batch the code accepts
(`model_theorems_apply_to_the_code`).

The per-entry service-class clause is checked by the SEC validators, not by `verify`; it enters as the hypothesis
`hcls`, which `Ach.Props.DirBridge.accepted_batch_classOK` discharges for the 20 shaped classes.
-/
namespace Ach.Props.C03ModelAccept
open Ach Ach.GoLite Ach.Gen Ach.Props.C03Code Ach.Props.ModelBridge

/-- the model entry read off the fields of entry `i`; the model's opaque conjunct for the record-level checks
(`extraOK`) is set to true: `verify` says nothing about them -/
def entryOf {c : Ctx} (B : StdBatch c) (i : Nat) : VEntry :=
  { code := B.tc i, rdfi := B.rdfi i, checkDigit := B.cd i, amount := B.am i, trace := B.tr i,
    addendaCount := (B.cnt i).toNat, extraOK := true }

/-- the model batch read off the stored batch -/
def toModel {c : Ctx} (B : StdBatch c) : VBatch :=
  { header := { serviceClass := B.hscc, companyId := B.hcid, odfi := B.hodfi, batchNumber := B.hbn },
    entries := (List.range B.n).map (entryOf B),
    control := { serviceClass := B.cscc, entryAddendaCount := B.count, entryHash := B.hash, totalDebit := B.debit,
                 totalCredit := B.credit, companyId := B.ccid, odfi := B.codfi, batchNumber := B.cbn },
    extraOK := true }

theorem creditPart_model (t a : Int) :
    Ach.Props.AcceptedAmounts.creditPart t a = (if Ach.creditCodes.contains t then a else 0) :=
  creditPart_eq_model t a

theorem debitPart_model (t a : Int) :
    Ach.Props.AcceptedAmounts.debitPart t a = (if Ach.debitCodes.contains t then a else 0) :=
  debitPart_eq_model t a

theorem length_le_byteLen (s : Str) : s.length ≤ byteLen s := by
  induction s with
  | nil => exact Nat.zero_le _
  | cons a s ih =>
      have h1 : 1 ≤ runeLen a := encodeChar_length a ▸ encodeChar_ne_nil a
      simp only [byteLen, List.map_cons, List.sum_cons, List.length_cons] at ih ⊢
      omega

/-- the code's prefix comparison is the model's -/
theorem tracePrefix_model (t b : Str) (h : Ach.Props.AcceptedTraces.tracePrefix t = .str b) :
    (if t.length ≥ 8 then t.take 8 else []) = b := by
  unfold Ach.Props.AcceptedTraces.tracePrefix at h
  split at h
  · -- a slice `[0:8]` that is a string was taken of a string of at least 8 runes
    unfold sliceAscii at h
    split at h
    · next hs =>
      simp only [Bool.and_eq_true, decide_eq_true_eq] at hs
      have h8 : 8 ≤ t.length := Int.ofNat_le.mp hs.2
      simpa [h8] using h
    · cases h
  · next h8 =>
    have hlt : ¬ t.length ≥ 8 := fun hl => h8 (Nat.le_trans hl (length_le_byteLen t))
    simpa [hlt] using h

/-- the code's ascending chain is the model's -/
theorem ascending_model (tr : Nat → Str) (mk : Nat → VEntry) (hmk : ∀ i, (mk i).trace = tr i) :
    ∀ (is : List Nat) (x : Str), Ach.Props.AcceptedAscending.ascending tr x is → tracesAscend x (is.map mk) = true := by
  intro is
  induction is with
  | nil => intro x _; rfl
  | cons i is ih =>
      intro x ⟨h1, h2⟩
      simp only [List.map_cons, tracesAscend, Bool.and_eq_true, hmk]
      exact ⟨by simpa [strLt, strLE] using h1, ih (tr i) h2⟩

theorem map_sum_congr {α} (l : List α) (f g : α → Int) (h : ∀ x ∈ l, f x = g x) : (l.map f).sum = (l.map g).sum :=
  congrArg List.sum (List.map_congr_left h)

/-! The model's entries are `mk 0, …, mk (n-1)`: its sums and its `all` clauses are those of the code, index by index. -/

theorem all_map_range {α} (q : α → Bool) (mk : Nat → α) (n : Nat) :
    ((List.range n).map mk).all q = true ↔ ∀ i, i < n → q (mk i) = true := by
  simp only [List.all_map, List.all_eq_true, List.mem_range, Function.comp]

/-- **what the code accepts, the model accepts**: a non-empty standard batch of any size, default options, addenda counts
that are counts (≥ 0), service-class clause as checked by the SEC validator (`hcls`) -/
theorem code_accept_implies_model_accept (c : Ctx) (B : StdBatch c) (hdef : defaultOpts c)
    (hn : 0 < B.n) (hcnt : ∀ i, i < B.n → 0 ≤ B.cnt i)
    (hcls : ∀ i, i < B.n → Ach.Props.DirBridge.classOKOf B.hscc (B.tc i) = true)
    (ha : run c v_Batch_verify = .accept) :
    batchValidate {} (toModel B) = true := by
  obtain ⟨k1, k2, k3, k4, a1, a2, a3, a4, e1, e2, e3, e4⟩ := c03_standard_batch c B hdef ha
  have hne : (toModel B).entries.isEmpty = false := by simp [toModel, Nat.ne_of_gt hn]
  have hent : (toModel B).entries.all (entryOK {}) = true :=
    (all_map_range _ _ _).mpr fun i hi => by simp [entryOK, entryOf, e1 i hi, e2 i hi]
  have hcount : entryCount (toModel B).entries = B.count := by
    rw [k1]
    exact sumBy_map_range _ _ _ _ fun i hi => by
      simp only [entryOf, Int.natCast_add, Int.toNat_of_nonneg (hcnt i hi)]
      rfl
  have hasc : tracesAscend ['0'] (toModel B).entries = true := ascending_model B.tr (entryOf B) (fun _ => rfl) _ _ e4
  have hdeb : debitTotal (toModel B).entries = B.debit := by
    rw [k4]
    exact sumBy_map_range _ _ _ _ fun _ _ => (debitPart_model _ _).symm
  have hcred : creditTotal (toModel B).entries = B.credit := by
    rw [k3]
    exact sumBy_map_range _ _ _ _ fun _ _ => (creditPart_model _ _).symm
  have hhash : batchHash (toModel B).entries = B.hash := by
    rw [k2]
    exact congrArg (leastSignificantDigits · 10) (sumBy_map_range _ _ _ _ fun i _ => (rdfiNumber_eq (entryOf B i)).symm)
  have hpre : tracePrefixOK (stringField (toModel B).header.odfi 8) (toModel B).entries = true :=
    (all_map_range _ _ _).mpr fun i hi => decide_eq_true (tracePrefix_model (B.tr i) _ (e3 i hi))
  have hclass : (toModel B).entries.all (classOK (toModel B).header.serviceClass) = true := (all_map_range _ _ _).mpr hcls
  unfold batchValidate
  rw [hne, hent, hcount, hasc, hdeb, hcred, hhash, hpre, hclass]
  simp [toModel, a1, a2, a3, a4]

/-- hence what `validate_sound_batch` draws from the model's acceptance about count, hash, totals and trace numbers holds
of the batch the code accepted -/
theorem model_theorems_apply_to_the_code (c : Ctx) (B : StdBatch c) (hdef : defaultOpts c)
    (hn : 0 < B.n) (hcnt : ∀ i, i < B.n → 0 ≤ B.cnt i)
    (hcls : ∀ i, i < B.n → Ach.Props.DirBridge.classOKOf B.hscc (B.tc i) = true)
    (ha : run c v_Batch_verify = .accept) :
    entryCount (toModel B).entries = B.count ∧ batchHash (toModel B).entries = B.hash ∧
    debitTotal (toModel B).entries = B.debit ∧ creditTotal (toModel B).entries = B.credit ∧
    tracesAscend ['0'] (toModel B).entries = true ∧
    tracePrefixOK (stringField B.hodfi 8) (toModel B).entries = true := by
  obtain ⟨h1, h2, h3, h4, _, _, _, h8, h9, _⟩ :=
    Ach.Props.C03.validate_sound_batch (toModel B) (code_accept_implies_model_accept c B hdef hn hcnt hcls ha)
  exact ⟨h1, h2, h3, h4, h8, h9⟩

/-- non-vacuity: the theorem applies to the sample file's batch (accepted by the translated `Batch.verify`), whose model
batch is therefore accepted by the hand model -/
theorem sample_model_accepts :
    batchValidate {} (toModel Ach.Props.C03CodeSample.sampleStd) = true :=
  code_accept_implies_model_accept _ Ach.Props.C03CodeSample.sampleStd Ach.Props.C03CodeSample.sample_default_opts
    (by decide) (fun _ _ => by show (0 : Int) ≤ 0; decide) (fun _ _ => by show DirBridge.classOKOf 200 47 = true; decide +kernel) Ach.Props.AcceptedSample.sample_batch_verified

end Ach.Props.C03ModelAccept
