import Ach.Props.Layouts
import Ach.Proofs.Layout
import Ach.Proofs.Lines
import Ach.Proofs.Compile
import Ach.Generated.Topics
/-!
# C01 — Write then Read returns the same file, for every physical line layout

Record level (any layout `compile` accepts, i.e. each of the 26 record types
whose obligation `Props.Layouts.layout_X` holds on the current source):

* `record_roundtrip` — parsing the rendering of in-width field values returns them;
* `record_rewrite` — and rendering again reproduces the text;
* `reader_record_fixed_point` — for any 94-column line, write(read(line)) is a fixed point of write ∘ read
  when the layout's converter pairs are stable (`StableSpec`; shown for the string converter pairs, numeric
  pairs need the non-negativity the validators enforce).

Line level (the physical layouts of the property):

* `layout_newlines` — LF, CRLF, CR, several blank lines interleaved, or no separators at all;
* `layout_trimmed` — trailing blanks trimmed from every line (with real separators), for every Unicode content;
  holds because `rightPadShortLine` measures runes — the fact `pad_unit_is_rune` is re-extracted from reader.go.
-/
namespace Ach.Props.C01
open Ach.Gen

theorem record_roundtrip (pf : ParseFact) (rf : RenderFact) (L : Layout) (_h : compile pf rf = .ok L)
    (ps : Bool) (vs : List Val) (hv : RecOK ps L vs) : parseRec ps L (renderRec L vs) = vs :=
  parseRec_renderRec hv

theorem record_rewrite (pf : ParseFact) (rf : RenderFact) (L : Layout) (_h : compile pf rf = .ok L)
    (ps : Bool) (vs : List Val) (hv : RecOK ps L vs) :
    renderRec L (parseRec ps L (renderRec L vs)) = renderRec L vs := by
  rw [parseRec_renderRec hv]

theorem reader_record_fixed_point (pf : ParseFact) (rf : RenderFact) (L : Layout) (h : compile pf rf = .ok L)
    (ps : Bool) (hs : ∀ f ∈ L, StableSpec ps f) (line : Str) (hl : line.length = 94) :
    renderRec L (parseRec ps L (renderRec L (parseRec ps L line))) = renderRec L (parseRec ps L line) :=
  Ach.reader_record_fixed_point L hs line (hl.trans (Ach.compile_width pf rf L h).symm)

/-- non-vacuity of `record_roundtrip`: an EntryDetail-like pair of fields with concrete in-width values -/
example : RecOK false [⟨"IndividualName", 22, .alpha, .trim⟩, ⟨"Amount", 10, .num, .num⟩]
    [.s "Jane Doe".toList, .n 12345] :=
  ⟨fieldOK_alpha_trim false _ 22 _ (by decide) (by decide) (by decide),
   fieldOK_num_num false _ 10 12345 (by decide) (by decide) (by decide) (by decide) (by decide), trivial⟩

/-- LF / CRLF / CR / blank lines interleaved / one unbroken stream: the Reader sees the same records -/
theorem layout_newlines (recs : List Str) (seps : List Str)
    (hlen : ∀ r ∈ recs, r.length = 94) (hnl : ∀ r ∈ recs, ∀ c ∈ r, isNL c = false)
    (hseps : ∀ s ∈ seps, ∀ c ∈ s, isNL c = true) (hcount : seps.length = recs.length) :
    splitLines 94 (List.flatten (List.zipWith (· ++ ·) recs seps)) = recs := by
  rw [splitLines, split_join 94 (by decide) recs seps hlen hnl hseps hcount]
  rfl

/-- F: `rightPadShortLine` measures the line in runes, not bytes -/
theorem pad_unit_is_rune : rightPadUnit = "rune" := rfl

/-- trailing blanks trimmed: every record with at least one non-blank column is restored by the
Reader's padding, whatever characters it holds -/
theorem layout_trimmed (recs : List Str) (seps : List Str)
    (hlen : ∀ r ∈ recs, r.length = 94) (hnl : ∀ r ∈ recs, ∀ c ∈ r, isNL c = false)
    (hnb : ∀ r ∈ recs, trimRightSpaces r ≠ [])
    (hsne : ∀ s ∈ seps, s ≠ []) (hseps : ∀ s ∈ seps, ∀ c ∈ s, isNL c = true) (hcount : seps.length = recs.length) :
    splitLines 94 (List.flatten (List.zipWith (· ++ ·) (recs.map trimRightSpaces) seps)) = recs.map trimRightSpaces ∧
    ∀ r ∈ recs, rightPad rightPadUnit (trimRightSpaces r) = some r := by
  refine ⟨?_, fun r hr => rightPad_trimRight_spaces rightPadUnit r (hlen r hr) (Or.inl pad_unit_is_rune)⟩
  rw [splitLines, split_join_of 94 (recs.map trimRightSpaces) seps (List.forall_mem_map.2 hnb)
    (List.forall_mem_map.2 fun r hr => hlen r hr ▸ (trimRightSpaces_prefix r).length_le)
    (List.forall_mem_map.2 fun r hr c hc => hnl r hr c ((trimRightSpaces_prefix r).subset hc))
    hseps (by rw [List.length_map]; exact hcount) (.inr hsne)]
  rfl

/-- F: the Reader / Writer functions whose loops `Ach.Model.Lines` and `Ach.Model.Writer` mirror by hand, and the
converters `Ach.Model.Field` mirrors, have the bodies the models were written against -/
theorem reader_writer_functions_unchanged : hashes_readwrite = [("NewReaderWithContentType", 4219352347121408690), ("NewReader", 3010030418815538912), ("NewWriterWithOpts", 13109305797645892749), ("NewWriter", 17891989422190391091), ("Reader.Read", 14029065647283193467), ("Reader.readLine", 3416248389251196672), ("Reader.parseLine", 9354773263074861296), ("Writer.Write", 647901554185630992), ("Writer.writeBatch", 11647795274641545808), ("Writer.writeIATBatch", 16352563860775370297), ("Writer.writeLine", 8220964415537587164), ("Writer.Flush", 1266472369869030050)] := rfl

theorem converter_functions_unchanged : hashes_converters = [("converters.alphaField", 4740796053050000714), ("converters.numericField", 9438519147184405342), ("converters.stringField", 2345220697369990213), ("converters.parseNumField", 1749344308253117534), ("converters.parseStringField", 9183802689701039486), ("converters.parseStringFieldWithOpts", 14307142360421685818), ("converters.leastSignificantDigits", 6497238369820402250), ("validator.validateSimpleDate", 3612652229803380485), ("validator.validateSimpleTime", 5875137419291385217), ("validator.validateSettlementDate", 10899315051963069866), ("validator.isAlphanumeric", 16446727476239382950), ("trimRoutingNumberLeadingZero", 9750321273517260225), ("rightPadShortLine", 8981738434401343921), ("blankLine", 3508514771600622843)] := rfl

end Ach.Props.C01
