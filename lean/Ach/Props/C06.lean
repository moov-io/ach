import Ach.Proofs.Lines
import Ach.Proofs.Create
import Ach.Go.Utf8
import Ach.Generated.Sites
/-!
# C06 — no input makes the library or the HTTP server panic or hang  (partial)

What a theorem can carry — the panic and hang sites that are *logic*:

* `index_site_census` (F) — every slice / index expression in the functions reachable from the C06 entry points
  (Reader dispatch, record accessors, build / upsertOffsets, merge, flatten, reversal, segment, the byte-cutting
  `Parse` functions) is the expected one; a new or changed slice expression breaks this obligation and sends the
  oracle searching;
* `lines_at_most_94` — for *every* byte/rune stream the Reader's loop flushes lines of 1..94 runes, so the
  long-line branch of `readLine`, `trimSpacesFromLongLine` and `processFixedWidthFile` are unreachable through `Read`,
  and the rune-measured padding never fails (`short_line_padding_total`);
* `padded_accessor_in_bounds` — the sub-field accessors slice `alphaField(v, n)`, whose byte length is at least `n`,
  whatever `v` is (the defect fixed in /repo commit 4c8c8aa1: they used to slice `v` itself);
* `offset_removal_total` — the removal loop of `upsertOffsets` with `Entries[i+1:]` neither panics nor spins, for every
  entry list (`removeLoop_upsert`); with `Entries[i+i:]` it does both (C05 `upsert_counterexample_*`);
* all model functions are total Lean functions: every loop is a structural recursion or carries fuel with a
  proved bound.

Not exhibited by any model: nil dereferences on partially built files (ADV files with a missing control, nil entries from
JSON `null`, a nil file in the server's segment endpoint — found by the oracle, known findings), `encoding/json`,
gorilla/mux, go-kit, stack depth, the scheduler.
-/
namespace Ach.Props.C06
open Ach.Gen

theorem index_site_census : indexSites = [
  ("Reader.parseLine", ["r.line[:1]", "r.line[:2]", "r.line[:1]"]),
  ("Reader.parseBatchHeader", []),
  ("Reader.parseAddenda", ["r.currentBatch.GetEntries()[entryIndex]", "r.line[1:3]", "r.currentBatch.GetEntries()[entryIndex]", "r.currentBatch.GetEntries()[entryIndex]", "r.line[3:6]", "r.currentBatch.GetEntries()[entryIndex]", "r.currentBatch.GetEntries()[entryIndex]", "r.currentBatch.GetEntries()[entryIndex]", "r.currentBatch.GetEntries()[entryIndex]", "r.line[3:6]", "r.currentBatch.GetEntries()[entryIndex]", "r.currentBatch.GetEntries()[entryIndex]", "r.line[3:6]", "r.currentBatch.GetEntries()[entryIndex]", "r.currentBatch.GetEntries()[entryIndex]", "r.currentBatch.GetEntries()[entryIndex]", "r.currentBatch.GetEntries()[entryIndex]"]),
  ("Reader.parseEntryDetail", []),
  ("Reader.readLine", []),
  ("Reader.Read", []),
  ("Reader.parseFileControl", []),
  ("Reader.parseED", []),
  ("Batch.upsertOffsets", ["r.Entries[i]", "r.Entries[i]", "r.Entries[i]", "r.Entries[i]", "r.Entries[i]", "r.Entries[:i]", "r.Entries[i+1:]"]),
  ("Batch.build", ["entry.TraceNumberField()[:8]", "r.Header.ODFIIdentificationField()[:8]", "r.Entries[i].TraceNumberField()[8:]", "r.Entries[i]", "r.ADVEntries[i]"]),
  ("aba8", ["rtn[0]", "rtn[0]", "rtn[1:9]", "rtn[:8]"]),
  ("Batch.isTraceNumberODFI", ["entry.TraceNumber[:8]"]),
  ("EntryDetail.SetRDFI", ["s[:8]", "s[8:9]"]),
  ("EntryDetail.SetTraceNumber", []),
  ("EntryDetail.CreditOrDebit", ["tc[1:2]"]),
  ("EntryDetail.CheckSerialNumberField", []),
  ("EntryDetail.ProcessControlField", ["r.alphaField(r.IndividualName, 22)[0:6]"]),
  ("EntryDetail.ItemResearchNumberField", ["absent"]),
  ("EntryDetail.ItemResearchNumber", ["r.alphaField(r.IndividualName, 22)[6:22]"]),
  ("EntryDetail.ProcessControl", ["absent"]),
  ("EntryDetail.SHRCardExpirationDateField", ["r.alphaField(r.IdentificationNumber, 15)[0:4]"]),
  ("EntryDetail.SHRDocumentReferenceNumberField", ["r.alphaField(r.IdentificationNumber, 15)[4:15]"]),
  ("EntryDetail.SHRIndividualCardAccountNumberField", []),
  ("EntryDetail.POPCheckSerialNumberField", ["r.alphaField(r.IdentificationNumber, 15)[0:9]"]),
  ("EntryDetail.POPTerminalCityField", ["r.alphaField(r.IdentificationNumber, 15)[9:13]"]),
  ("EntryDetail.POPTerminalStateField", ["r.alphaField(r.IdentificationNumber, 15)[13:15]"]),
  ("EntryDetail.CATXAddendaRecordsField", ["r.IndividualName[:4]"]),
  ("EntryDetail.CATXReceivingCompanyField", ["r.IndividualName[4:]"]),
  ("EntryDetail.CATXReservedField", ["r.alphaField(r.IndividualName, 22)[20:22]"]),
  ("EntryDetail.OriginalTraceNumberField", []),
  ("EntryDetail.PaymentTypeField", []),
  ("EntryDetail.ReceivingCompanyField", []),
  ("File.FlattenBatches", []),
  ("File.Reversal", ["r.Batches[i]", "r.Batches[i]", "entries[j]", "entries[j]", "entries[j]", "entries[j]", "entries[j]", "r.Batches[i]", "r.Batches[i]", "r.Batches[i]", "r.Batches[i]"]),
  ("File.SegmentFile", []),
  ("File.segmentFileBatches", []),
  ("File.segmentFileIATBatches", []),
  ("outFile.add", ["incoming.Batches[j]", "incoming.Batches[j]", "entries[m]", "entries[m]", "entries[m]"]),
  ("convertToFiles", ["sorted.batches[i]"]),
  ("lineCount", ["absent"]),
  ("MergeFiles", []),
  ("trimRoutingNumberLeadingZero", ["s[0]", "s[1:]"]),
  ("CalculateCheckDigit", []),
  ("CheckRoutingNumber", ["routingNumber[len(routingNumber)-1]"]),
  ("FileHeader.Parse", ["runes[3:13]", "runes[13:23]", "runes[23:29]", "runes[29:33]", "runes[33:34]", "runes[40:63]", "runes[63:86]", "runes[86:94]"]),
  ("ADVEntryDetail.Parse", ["runes[1:3]", "runes[3:11]", "runes[11:12]", "runes[12:27]", "runes[27:39]", "runes[39:48]", "runes[48:53]", "runes[53:54]", "runes[54:76]", "runes[76:78]", "runes[78:79]", "runes[79:87]", "runes[87:90]", "runes[90:94]"]),
  ("ADVFileControl.Parse", ["runes[1:7]", "runes[7:13]", "runes[13:21]", "runes[21:31]", "runes[31:51]", "runes[51:71]"]),
  ("BatchControl.Parse", ["runes[1:4]", "runes[4:10]", "runes[10:20]", "runes[20:32]", "runes[32:44]", "runes[44:54]", "runes[54:73]", "runes[79:87]", "runes[87:94]"]),
  ("IATEntryDetail.SetRDFI", ["s[:8]", "s[8:9]"]),
  ("ADVEntryDetail.SetRDFI", ["s[:8]", "s[8:9]"])
] := rfl

theorem lines_at_most_94 (text : Str) : ∀ l ∈ splitLines 94 text, 0 < l.length ∧ l.length ≤ 94 :=
  splitLines_width 94 (by decide) text

theorem short_line_padding_total (text : Str) : ∀ l ∈ splitLines 94 text, ∃ p, rightPad "rune" l = some p ∧ p.length = 94 :=
  fun l hl => rightPad_rune_ok l (lines_at_most_94 text l hl).2

/-- F: rune-measured padding is what the source does today -/
theorem pad_unit_is_rune : rightPadUnit = "rune" := rfl

/-- a value padded to its field width can be sliced anywhere below that width, in bytes -/
theorem padded_accessor_in_bounds (v : Str) (n : Nat) (hn : n ≤ lineLength) : n ≤ (utf8 (alphaField v n)).length :=
  Nat.le_trans (Nat.le_of_eq (alphaField_length v n hn).symm) (length_le_utf8_length (alphaField v n))

theorem offset_removal_total (es : List CEntry) (ctl : CControl) :
    ∃ r, removeLoop 1 (2 * es.length + 2) 0 es ctl = .ok r :=
  ⟨_, removeLoop_upsert es ctl⟩

end Ach.Props.C06
