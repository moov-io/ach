import Ach.Props.Accepted
import Ach.Generated.Dicts
/-!
# What the default rules demand of a return addenda and of a notification of change (C15: the rules
`CustomReturnCodes` relaxes, and the change-code check of `Addenda98.Validate`)
-/
namespace Ach.Props.AcceptedAddenda
open Ach Ach.GoLite Ach.Gen

def returnCodeBlock : Prog :=
  .ite (.not (.flag "recv" "CustomReturnCodes"))
    (seqs [(.bind2 "_" "ok" (.call1 "dict.returnCodeDict" (.fld "ReturnCode"))),
      (.ite (.not (.var "ok")) (.ret (.mkErr "ReturnCode")) .skip)])
    .skip

theorem addenda99_validate_shape :
    stmts v_Addenda99_Validate = Ach.Props.Accepted.frontOf v_Addenda99_Validate 2 ++ [returnCodeBlock, .ret .nil] ∧
    (Ach.Props.Accepted.frontOf v_Addenda99_Validate 2).all (fun q => rejectOnly q && noAssign q) = true :=
  ⟨rfl, by decide +kernel⟩

/-- the return codes the library knows (the keys of `returnCodeDict`, re-extracted from the source on every run) -/
def knownReturnCodes : List String := (dictKeys.lookup "returnCodeDict").getD []

/-- for every Addenda99 value: `Addenda99.Validate()` (translated from the source on this run) returns nil without
`CustomReturnCodes` only if the return code is a key of `returnCodeDict` — the table no validation ever writes
(`Ach.Props.C19.globals_written_only_at_init`) -/
theorem accepted_addenda99_return_code (c : Ctx) (rc : Str)
    (hflag : hasFlag c "recv" "CustomReturnCodes" = false)
    (hr : lookup c.fields (joinPath c.recv "ReturnCode") = .str rc)
    (ha : run c v_Addenda99_Validate = .accept) :
    knownReturnCodes.contains (String.ofList rc) = true := by
  obtain ⟨hs, hall⟩ := addenda99_validate_shape
  obtain ⟨pre, h⟩ := accept_reaches c _ _ _ hs (by simp) hall (run_accept.mp ha)
  have hd : builtin1 c.ext "dict.returnCodeDict" (Val.str rc) =
      .pair (.int 0) (.bool (knownReturnCodes.contains (String.ofList rc))) := by
    have hk : dictKeys.lookup "returnCodeDict" = some knownReturnCodes := rfl
    have hdrop : (("dict.returnCodeDict" : String).drop 5).copy = "returnCodeDict" := by decide +kernel
    have hsw : ("dict.returnCodeDict" : String).startsWith "dict." = true := by decide +kernel
    simp [builtin1, hsw, hdrop, hk]
  by_cases hin : knownReturnCodes.contains (String.ofList rc) = true
  · exact hin
  · have hnm : String.ofList rc ∉ knownReturnCodes := by simpa using hin
    simp [returnCodeBlock, seqs, exec, eval, hflag, hr, hd, hnm, lookup, scopeExit] at h

example : knownReturnCodes.contains "R01" = true ∧ knownReturnCodes.contains "R93" = false := by decide +kernel

def changeCodeTail : List Prog :=
  [(.bind2 "_" "ok" (.call1 "dict.changeCodeDict" (.fld "ChangeCode"))),
   (.ite (.not (.var "ok")) (.ret (.mkErr "ChangeCode")) .skip),
   (.ite (.eq (.fld "CorrectedData") (.str "")) (.ret (.mkErr "CorrectedData")) .skip),
   (.ret .nil)]

theorem addenda98_validate_shape :
    stmts v_Addenda98_Validate = Ach.Props.Accepted.frontOf v_Addenda98_Validate 4 ++ changeCodeTail ∧
    (Ach.Props.Accepted.frontOf v_Addenda98_Validate 4).all (fun q => rejectOnly q && noAssign q) = true :=
  ⟨rfl, by decide +kernel⟩

def knownChangeCodes : List String := (dictKeys.lookup "changeCodeDict").getD []

/-- for every Addenda98 value: `Addenda98.Validate()` (translated from the source on this run) returns nil only if the
change code is a key of `changeCodeDict` and the corrected data is not empty -/
theorem accepted_addenda98_change_code (c : Ctx) (cc cdata : Str)
    (hc : lookup c.fields (joinPath c.recv "ChangeCode") = .str cc)
    (hd : lookup c.fields (joinPath c.recv "CorrectedData") = .str cdata)
    (ha : run c v_Addenda98_Validate = .accept) :
    knownChangeCodes.contains (String.ofList cc) = true ∧ cdata ≠ [] := by
  obtain ⟨hs, hall⟩ := addenda98_validate_shape
  obtain ⟨pre, h⟩ := accept_reaches c _ _ _ hs (by simp [changeCodeTail]) hall (run_accept.mp ha)
  have hdict : builtin1 c.ext "dict.changeCodeDict" (Val.str cc) =
      .pair (.int 0) (.bool (knownChangeCodes.contains (String.ofList cc))) := by
    have hk : dictKeys.lookup "changeCodeDict" = some knownChangeCodes := rfl
    have hdrop : (("dict.changeCodeDict" : String).drop 5).copy = "changeCodeDict" := by decide +kernel
    have hsw : ("dict.changeCodeDict" : String).startsWith "dict." = true := by decide +kernel
    simp [builtin1, hsw, hdrop, hk]
  have he : ("" : String).toList = [] := by decide
  by_cases hin : String.ofList cc ∈ knownChangeCodes
  · by_cases hnd : cdata = []
    · simp [changeCodeTail, seqs, exec, eval, hc, hd, hdict, hin, hnd, he, lookup, cmpVals, scopeExit] at h
    · exact ⟨by simpa using hin, hnd⟩
  · simp [changeCodeTail, seqs, exec, eval, hc, hdict, hin, lookup, scopeExit] at h

end Ach.Props.AcceptedAddenda
