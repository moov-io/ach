import Ach.Proofs.GoLitePaths
import Ach.Props.Validators
/-!
# What an accepted record satisfies, read off the translated validators (C03)

The check digit of an entry that `EntryDetail.Validate` accepts; `Batch.verify` as a whole — ten statements that can only
reject, then `return nil`, so that an accepting run passed each of them (`verify_statements`: where every clause about
accepted batches in `Ach.Props.Accepted*` starts); the comparisons between header and control of a standard and of an IAT
batch.
-/

namespace Ach.Props.Accepted
open Ach Ach.GoLite Ach.Gen

/-- all statements of a function but its last `k` (used by `AcceptedAddenda` and `AcceptedIAT` to reach a tail) -/
def frontOf (p : Prog) (k : Nat) : List Prog := (stmts p).take ((stmts p).length - k)

/-- what `EntryDetail.Validate` does about the check digit (`IATEntryDetail.Validate` ends with the same statements) -/
def checkDigitStmts : Prog :=
  seqs [(.bind "calculated" (.call1 "CalculateCheckDigit" (.call2 "stringField" (.fld "RDFIIdentification") (.int 8)))),
    (.bind2 "edCheckDigit" "err" (.call1 "strconv.Atoi" (.fld "CheckDigit"))),
    (.ite (.ne (.var "err") .nil) (.ret (.wrapErr "CheckDigit" (.nonNil (.var "err")))) .skip),
    (.ite (.ne (.var "calculated") (.var "edCheckDigit")) (.ret (.mkErr "RDFIIdentification")) .skip)]

theorem entry_validate_statements :
    (stmts v_EntryDetail_Validate).length = 7 ∧
    (stmts v_EntryDetail_Validate).dropLast.all (fun q => rejectOnly q && noAssign q) = true := by
  decide +kernel

theorem checkDigitStmts_next (c : Ctx) (pre : Locals) (rdfi cd : Str)
    (hr : lookup c.fields (joinPath c.recv "RDFIIdentification") = .str rdfi)
    (hc : lookup c.fields (joinPath c.recv "CheckDigit") = .str cd)
    (h : (exec checkDigitStmts c pre).2 = .next) :
    atoi cd = some (calculateCheckDigit (stringField rdfi 8)) := by
  have hcalc : builtin1 c.ext "CalculateCheckDigit" (builtin2 "stringField" (Val.str rdfi) (Val.int 8)) =
      .int (calculateCheckDigit (stringField rdfi 8)) := by simp [builtin1, builtin2]
  rcases atoi_builtin c.ext cd with hb | ⟨_, hb⟩ | ⟨v, hv, hb⟩
  · simp [checkDigitStmts, seqs, exec, eval, hr, hc, hcalc, hb] at h
  · simp [checkDigitStmts, seqs, exec, eval, hr, hc, hcalc, hb, lookup, cmpVals, scopeExit] at h
  · by_cases heq : calculateCheckDigit (stringField rdfi 8) = v
    · rw [hv, heq]
    · simp [checkDigitStmts, seqs, exec, eval, hr, hc, hcalc, hb, lookup, cmpVals, scopeExit, heq] at h

/-- C03, check digit — for every entry value: if `EntryDetail.Validate()` (translated from the source on this run)
returns nil and `AllowInvalidCheckDigit` is off, the entry's check digit is the number computed from the first eight
characters of its routing number -/
theorem accepted_entry_check_digit (c : Ctx) (hflag : hasFlag c "recv" "AllowInvalidCheckDigit" = false) (rdfi cd : Str)
    (hr : lookup c.fields (joinPath c.recv "RDFIIdentification") = .str rdfi)
    (hc : lookup c.fields (joinPath c.recv "CheckDigit") = .str cd)
    (ha : run c v_EntryDetail_Validate = .accept) :
    atoi cd = some (calculateCheckDigit (stringField rdfi 8)) := by
  obtain ⟨pre, h⟩ := run_passes_nth entry_validate_statements ha (k := 5)
    (q := .ite (.not (.flag "recv" "AllowInvalidCheckDigit")) checkDigitStmts .skip) rfl (by decide)
  exact checkDigitStmts_next c _ rdfi cd hr hc (unless_flag_next hflag h)

theorem batch_isADV_false (c : Ctx) (hp : String) (sec : Str)
    (hH : lookup c.fields (joinPath c.recv "Header") = .ref hp)
    (hsec : lookup c.fields (joinPath hp "StandardEntryClassCode") = .str sec) (hnadv : sec ≠ ['A', 'D', 'V']) :
    (exec v_Batch_IsADV c []).2 = .ret (.bool false) := by
  simp [v_Batch_IsADV, seqs, exec, eval, hH, hsec, cmpVals, lookup, hnadv]

theorem batch_isADV_true (c : Ctx) (hp : String)
    (hH : lookup c.fields (joinPath c.recv "Header") = .ref hp)
    (hsec : lookup c.fields (joinPath hp "StandardEntryClassCode") = .str ['A', 'D', 'V']) :
    (exec v_Batch_IsADV c []).2 = .ret (.bool true) := by
  simp [v_Batch_IsADV, seqs, exec, eval, hH, hsec, cmpVals, lookup]

/-- today `Batch.verify` is: 0 the entries guard, 1 `isFieldInclusion`, 2 header against control, 3 `isBatchEntryCount`,
4 `isSequenceAscending`, 5 `isBatchAmount`, 6 `isEntryHash`, 7 `isOriginatorDNE`, 8 `isTraceNumberODFI` and
`isAddendaSequence`, 9 `isCategory`, 10 `return nil`; all but the last can only reject, so that an accepted batch passed
each of them (`run_passes_nth`).  What stands at a position is pinned where it is used, by the `rfl` that names the
statement at `(k := …)`. -/
theorem verify_statements :
    (stmts v_Batch_verify).length = 11 ∧
    (stmts v_Batch_verify).dropLast.all (fun q => rejectOnly q && noAssign q) = true := by
  decide +kernel

/-- the comparisons `Batch.verify` makes between the header and the control of a standard batch -/
def stdHeaderGuards : Prog :=
  seqs [(.ite (.and (.not (.flag "recv" "UnequalServiceClassCode")) (.ne (.sel (.fld "Header") "ServiceClassCode") (.sel (.fld "Control") "ServiceClassCode")))
      (.ret (.mkErr "ServiceClassCode")) .skip),
    (.ite (.and (.ne (.sel (.fld "Header") "CompanyIdentification") (.sel (.fld "Control") "CompanyIdentification")) (.not (.flag "recv" "BypassCompanyIdentificationMatch")))
      (.ret (.mkErr "CompanyIdentification")) .skip),
    (.ite (.ne (.sel (.fld "Header") "ODFIIdentification") (.sel (.fld "Control") "ODFIIdentification"))
      (.ret (.mkErr "ODFIIdentification")) .skip),
    (.ite (.ne (.sel (.fld "Header") "BatchNumber") (.sel (.fld "Control") "BatchNumber"))
      (.ret (.mkErr "BatchNumber")) .skip)]

/-- the statement of `Batch.verify` that compares the header with the control -/
def headerControlBlock : Prog :=
  .block (seqs [(.sub "_t1" [] [] v_Batch_IsADV),
    (.ite (.not (.var "_t1"))
      stdHeaderGuards
      (seqs [(.ite (.and (.not (.flag "recv" "UnequalServiceClassCode")) (.ne (.sel (.fld "Header") "ServiceClassCode") (.sel (.fld "ADVControl") "ServiceClassCode")))
          (.ret (.mkErr "ServiceClassCode")) .skip),
        (.ite (.ne (.sel (.fld "Header") "ODFIIdentification") (.sel (.fld "ADVControl") "ODFIIdentification"))
          (.ret (.mkErr "ODFIIdentification")) .skip),
        (.ite (.ne (.sel (.fld "Header") "BatchNumber") (.sel (.fld "ADVControl") "BatchNumber"))
          (.ret (.mkErr "BatchNumber")) .skip)]))])

/-- C03, header / control — for every standard (non-ADV) batch value: if `Batch.verify()` (translated from the source on
this run; every `BatchXXX.Validate` starts with it) returns nil, header and control carry the same ODFI identification
and batch number, the same service class unless `UnequalServiceClassCode` is on, and the same company identification
unless `BypassCompanyIdentificationMatch` is on -/
theorem accepted_batch_header_control_agree (c : Ctx) (hp cp : String) (sec ci1 ci2 o1 o2 : Str) (n1 n2 s1 s2 : Int)
    (hH : lookup c.fields (joinPath c.recv "Header") = .ref hp)
    (hC : lookup c.fields (joinPath c.recv "Control") = .ref cp)
    (hsec : lookup c.fields (joinPath hp "StandardEntryClassCode") = .str sec) (hnadv : sec ≠ ['A', 'D', 'V'])
    (hs1 : lookup c.fields (joinPath hp "ServiceClassCode") = .int s1)
    (hs2 : lookup c.fields (joinPath cp "ServiceClassCode") = .int s2)
    (hc1 : lookup c.fields (joinPath hp "CompanyIdentification") = .str ci1)
    (hc2 : lookup c.fields (joinPath cp "CompanyIdentification") = .str ci2)
    (ho1 : lookup c.fields (joinPath hp "ODFIIdentification") = .str o1)
    (ho2 : lookup c.fields (joinPath cp "ODFIIdentification") = .str o2)
    (hn1 : lookup c.fields (joinPath hp "BatchNumber") = .int n1)
    (hn2 : lookup c.fields (joinPath cp "BatchNumber") = .int n2)
    (ha : run c v_Batch_verify = .accept) :
    o1 = o2 ∧ n1 = n2 ∧ (hasFlag c "recv" "UnequalServiceClassCode" = false → s1 = s2) ∧
      (hasFlag c "recv" "BypassCompanyIdentificationMatch" = false → ci1 = ci2) := by
  obtain ⟨pre, h⟩ := run_passes_nth verify_statements ha (k := 2) (q := headerControlBlock) rfl (by decide)
  simp only [headerControlBlock, seqs] at h
  rw [exec_callSwitch_sig (batch_isADV_false c hp sec hH hsec hnadv), cond_false] at h
  -- the four comparisons are the spine of the branch for standard batches
  have hg := spine_sound c stdHeaderGuards _ (Or.inr h)
  simp [stdHeaderGuards, seqs, spine, rejectOnly, isErrRet, isErrExpr, isSkip, exprNoVar, eval, hH, hC, hs1, hs2, hc1, hc2,
    ho1, ho2, hn1, hn2, cmpVals] at hg
  obtain ⟨g1, g2, g3, g4⟩ := hg
  refine ⟨g3, g4, fun hf => ?_, fun hf => ?_⟩
  · simpa [hf] using g1
  · by_cases e : ci1 = ci2
    · exact e
    · simp [hf, e] at g2

/-- C03, header / control of an IAT batch — the comparisons stand on the spine of `IATBatch.verify`: an accepted IAT
batch has the same ODFI identification and batch number in header and control, and the same service class unless
`UnequalServiceClassCode` is on -/
theorem accepted_iat_batch_header_control_agree (c : Ctx) (hp cp : String) (o1 o2 : Str) (n1 n2 s1 s2 : Int)
    (hH : lookup c.fields (joinPath c.recv "Header") = .ref hp)
    (hC : lookup c.fields (joinPath c.recv "Control") = .ref cp)
    (hs1 : lookup c.fields (joinPath hp "ServiceClassCode") = .int s1)
    (hs2 : lookup c.fields (joinPath cp "ServiceClassCode") = .int s2)
    (ho1 : lookup c.fields (joinPath hp "ODFIIdentification") = .str o1)
    (ho2 : lookup c.fields (joinPath cp "ODFIIdentification") = .str o2)
    (hn1 : lookup c.fields (joinPath hp "BatchNumber") = .int n1)
    (hn2 : lookup c.fields (joinPath cp "BatchNumber") = .int n2)
    (ha : run c v_IATBatch_verify = .accept) :
    o1 = o2 ∧ n1 = n2 ∧ (hasFlag c "recv" "UnequalServiceClassCode" = false → s1 = s2) := by
  have hg : ∀ e ∈ (spine v_IATBatch_verify).drop 1, eval c [] e = .bool false := fun e he =>
    Validators.guard_false ha (List.mem_of_mem_drop he)
  rw [show (spine v_IATBatch_verify).drop 1 =
    [.and (.not (.flag "recv" "UnequalServiceClassCode")) (.ne (.sel (.fld "Header") "ServiceClassCode") (.sel (.fld "Control") "ServiceClassCode")),
     .ne (.sel (.fld "Header") "ODFIIdentification") (.sel (.fld "Control") "ODFIIdentification"),
     .ne (.sel (.fld "Header") "BatchNumber") (.sel (.fld "Control") "BatchNumber")] from rfl] at hg
  simp [eval, hH, hC, ho1, ho2, hn1, hn2, hs1, hs2, cmpVals] at hg
  obtain ⟨g1, g2, g3⟩ := hg
  exact ⟨g2, g3, fun hf => by simpa [hf] using g1⟩

/-- non-vacuity: a concrete entry that `EntryDetail.Validate` accepts (routing 23138010, check digit 4) -/
def sampleEntry : Ctx where
  fields := [("TransactionCode", .int 22), ("RDFIIdentification", .str "23138010".toList), ("CheckDigit", .str "4".toList),
    ("DFIAccountNumber", .str "12345678".toList), ("Amount", .int 100000), ("IdentificationNumber", .str "".toList),
    ("IndividualName", .str "Receiver Account Name".toList), ("DiscretionaryData", .str "".toList),
    ("AddendaRecordIndicator", .int 0), ("TraceNumber", .str "121042880000001".toList), ("Category", .str "Forward".toList)]
  recvFlags := []
  paramFlags := []
  ext := []

example : run sampleEntry v_EntryDetail_Validate = .accept := by decide +kernel
example : atoi "4".toList = some (calculateCheckDigit (stringField "23138010".toList 8)) := by decide +kernel

end Ach.Props.Accepted
