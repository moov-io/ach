import Ach.Props.Accepted
/-!
# Every entry of an accepted batch carries a trace number that begins with the batch's ODFI (C03)

`Batch.isTraceNumberODFI` is a loop over the entries.  Its translation (`v_Batch_isTraceNumberODFI`, regenerated on every
run) is shown to be — today — the program `odfiProg`; a turn of the loop that falls through leaves the locals as they
were, so a run that returns nil passed the comparison for *every* entry, however many there are (`iter_visits`).
-/
namespace Ach.Props.AcceptedTraces
open Ach Ach.GoLite Ach.Gen

def odfiBody : Prog :=
  seqs [(.bind "entryODFI" (.str "")),
    (.ite (.ge (.call1 "len" (.sel (.var "entry") "TraceNumber")) (.int 8))
      (.assign "entryODFI" (.call3 "slice" (.sel (.var "entry") "TraceNumber") (.int 0) (.int 8)))
      .skip),
    (.ite (.ne (.var "bhODFI") (.var "entryODFI")) (.ret (.mkErr "ODFIIdentificationField")) .skip)]

def odfiProg : Prog :=
  seqs [(.ite (.flag "recv" "BypassOriginValidation") (.ret .nil) .skip),
    (.bind "bhODFI" (.call2 "stringField" (.sel (.fld "Header") "ODFIIdentification") (.int 8))),
    (.forEach "entry" (.fld "Entries") odfiBody),
    (.ret .nil)]

theorem isTraceNumberODFI_shape : v_Batch_isTraceNumberODFI = odfiProg := rfl

/-- what `isTraceNumberODFI` compares with the header's ODFI: the first eight bytes of the trace number, or nothing when
it is shorter (`.bad` when the trace number is not ASCII: byte slicing is outside the embedding) -/
def tracePrefix (t : Str) : Val := if 8 ≤ byteLen t then sliceAscii t 0 8 else .str []

theorem odfiBody_next (c : Ctx) {b : Str} {ep : String} {t : Str}
    (ht : lookup c.fields (joinPath ep "TraceNumber") = .str t)
    (h : (exec odfiBody c [("entry", .ref ep), ("bhODFI", .str b)]).2 = .next) :
    tracePrefix t = .str b ∧
      scopeExit [("bhODFI", Val.str b)] (exec odfiBody c [("entry", .ref ep), ("bhODFI", .str b)]).1 = [("bhODFI", .str b)] := by
  have hlen : builtin1 c.ext "len" (Val.str t) = .int (byteLen t) := by simp [builtin1]
  have hsl : builtin3 "slice" (Val.str t) (Val.int 0) (Val.int 8) = sliceAscii t 0 8 := by simp [builtin3]
  unfold tracePrefix
  by_cases h8 : 8 ≤ byteLen t
  · have h8i : (8 : Int) ≤ (byteLen t : Int) := by omega
    have hv : sliceAscii t 0 8 = .bad ∨ ∃ e, sliceAscii t 0 8 = .str e := by
      unfold sliceAscii; split <;> simp
    rcases hv with hv | ⟨e, hv⟩
    · simp [odfiBody, seqs, exec, eval, lookup, ht, hlen, hsl, cmpVals, h8i, hv, scopeExit] at h
    · by_cases hbe : b = e <;>
        simp [odfiBody, seqs, exec, eval, lookup, ht, hlen, hsl, cmpVals, h8, h8i, hv, update, hbe, scopeExit] at h ⊢
  · have h8i : ¬ (8 : Int) ≤ (byteLen t : Int) := by omega
    by_cases hbe : b = [] <;>
      simp [odfiBody, seqs, exec, eval, lookup, ht, hlen, cmpVals, h8, h8i, hbe, scopeExit] at h ⊢

/-- C03 — `Batch.isTraceNumberODFI()` returns nil without `BypassOriginValidation` only if the trace number of **every**
entry begins with the header's ODFI identification (eight columns), for batches of any size -/
theorem isTraceNumberODFI_accepts (c : Ctx) (hp p : String) (n : Nat) (tr : Nat → Str) (odfi : Str)
    (hflag : hasFlag c "recv" "BypassOriginValidation" = false)
    (hH : lookup c.fields (joinPath c.recv "Header") = .ref hp)
    (ho : lookup c.fields (joinPath hp "ODFIIdentification") = .str odfi)
    (hE : lookup c.fields (joinPath c.recv "Entries") = .lst p n)
    (htr : ∀ i, i < n → lookup c.fields (joinPath (elemPath p i) "TraceNumber") = .str (tr i))
    (h : (exec v_Batch_isTraceNumberODFI c []).2 = .ret (.err none)) :
    ∀ i, i < n → tracePrefix (tr i) = .str (stringField odfi 8) := by
  simp only [isTraceNumberODFI_shape, odfiProg, seqs] at h
  have e1 : exec (.ite (.flag "recv" "BypassOriginValidation") (.ret .nil) .skip) c [] = ([], .next) := by
    simp [exec, eval, hflag, scopeExit]
  have e2 : exec (.bind "bhODFI" (.call2 "stringField" (.sel (.fld "Header") "ODFIIdentification") (.int 8))) c [] =
      ([("bhODFI", .str (stringField odfi 8))], .next) := by
    simp [exec, eval, hH, ho, builtin2]
  rw [exec_seq_next e1, exec_seq_next e2] at h
  have hloop := accept_seq_left (by decide) h
  simp only [exec, eval, hE] at hloop
  intro i hi
  have hbody := (iter_visits _ _ _ _ (List.range n) (fun j hj hpass => by
    have hn := noExit_next odfiBody (by decide) c _ hpass
    exact ⟨hn, (odfiBody_next c (htr j (List.mem_range.mp hj)) hn).2⟩) (Or.inl hloop)).2 i (List.mem_range.mpr hi)
  exact (odfiBody_next c (htr i hi) hbody).1

/-- the statement of `Batch.verify` that runs `isTraceNumberODFI` (and `isAddendaSequence`) -/
def traceBlock : Prog :=
  .ite (.not (.flag "recv" "CustomTraceNumbers"))
    (seqs [(.check none v_Batch_isTraceNumberODFI), (.check none v_Batch_isAddendaSequence)])
    .skip

/-- today that statement is the third from the end of `Batch.verify`, and every statement before it can only reject -/
theorem verify_runs_trace_checks :
    (stmts v_Batch_verify).drop ((stmts v_Batch_verify).length - 3) = traceBlock :: (stmts v_Batch_verify).drop ((stmts v_Batch_verify).length - 2) ∧
    (stmts v_Batch_verify).drop ((stmts v_Batch_verify).length - 2) ≠ [] ∧
    ((stmts v_Batch_verify).take ((stmts v_Batch_verify).length - 3)).all (fun q => rejectOnly q && noAssign q) = true ∧
    rejectOnly traceBlock = true :=
  ⟨rfl, by decide, rfl, rfl⟩

/-- C03, trace numbers begin with the ODFI — for every standard batch value, of any size: if `Batch.verify()`
(translated from the source on this run) returns nil and neither `CustomTraceNumbers` nor `BypassOriginValidation` is on,
then the trace number of every entry begins with the eight columns of the header's ODFI identification -/
theorem accepted_batch_traces_begin_with_odfi (c : Ctx) (hp p : String) (n : Nat) (tr : Nat → Str) (odfi : Str)
    (hf1 : hasFlag c "recv" "CustomTraceNumbers" = false)
    (hf2 : hasFlag c "recv" "BypassOriginValidation" = false)
    (hH : lookup c.fields (joinPath c.recv "Header") = .ref hp)
    (ho : lookup c.fields (joinPath hp "ODFIIdentification") = .str odfi)
    (hE : lookup c.fields (joinPath c.recv "Entries") = .lst p n)
    (htr : ∀ i, i < n → lookup c.fields (joinPath (elemPath p i) "TraceNumber") = .str (tr i))
    (ha : run c v_Batch_verify = .accept) :
    ∀ i, i < n → tracePrefix (tr i) = .str (stringField odfi 8) := by
  obtain ⟨pre, h⟩ := run_passes_nth Accepted.verify_statements ha (k := 8) (q := traceBlock) rfl (by decide)
  exact isTraceNumberODFI_accepts c hp p n tr odfi hf2 hH ho hE htr
    (check_passes c pre none _ (seq_next_left (unless_flag_next hf1 h)))

/-- non-vacuity of the prefix function: an ASCII trace number of fifteen digits has its first eight as prefix -/
example : tracePrefix "121042880000001".toList = .str "12104288".toList := by decide +kernel

end Ach.Props.AcceptedTraces
