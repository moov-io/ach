import Ach.Proofs.ReaderSM
import Ach.Model.ReaderDriver
import Ach.Model.Writer
import Ach.Generated.Topics
import Ach.Generated.Layouts
/-!
# The Reader's record dispatcher (shared by C01, C02, C04 and C15)

Model: `Ach.ReaderSM` (`Ach/Model/ReaderSM.lean`) — `parseLine` and everything it calls as a state machine over
abstract records, plus the tail of `Read`; `classify` (`Ach/Model/ReaderDriver.lean`) maps a 94-column line to the
abstract record.  Tie: the `reader` correspondence stream (valid, mutated, truncated, concatenated files and arbitrary
record sequences: real `Reader.Read` vs `read ∘ classify`, tree of line numbers and error classes in order) and the
facts below, re-extracted from reader.go on every run.

Trusted / modelled, not verified: the outcome of every record-level and batch-level `Validate()` is an input of the
model (the stream supplies the real outcomes); the byte-vs-character slicing of `r.line` is identified (ASCII).
-/
namespace Ach.Props.Dispatch
open Ach Ach.Gen Ach.ReaderSM

/-- every function the dispatcher model mirrors by hand has the body it was written against -/
theorem dispatch_functions_unchanged : hashes_dispatch = [("Reader.parseLine", 9354773263074861296), ("Reader.parseBH", 259601855583249320), ("Reader.parseED", 11587424247892398044), ("Reader.parseEDAddenda", 18036587564753202478), ("Reader.parseFileHeader", 12143495728072788486), ("Reader.parseBatchHeader", 16757155537065265750), ("Reader.parseEntryDetail", 14179005576981857029), ("Reader.parseAddenda", 17912293228272891323), ("Reader.parseADVAddenda", 17763170913395419680), ("Reader.parseBatchControl", 15993292339887807459), ("Reader.parseFileControl", 16359385392563525906), ("Reader.parseIATBatchHeader", 13931769634893129415), ("Reader.parseIATEntryDetail", 13098000140981218828), ("Reader.parseIATAddenda", 15724125762380673849), ("Reader.switchIATAddenda", 2041972110074576618), ("Reader.mandatoryOptionalIATAddenda", 11265651372768187792), ("Reader.nocIATAddenda", 16171707985875300198), ("Reader.returnIATAddenda", 1743759350996969195), ("Reader.addCurrentBatch", 5211845995868350317), ("Reader.addIATCurrentBatch", 11134415336968845929), ("maybeValidate", 10307993758593246238), ("File.IsADV", 10105026287465456566), ("File.AddBatch", 286752064724496751), ("File.AddIATBatch", 8516330373366649668), ("NewIATBatch", 18310525992506084835), ("IATBatch.AddEntry", 52444354139118889), ("IATBatch.GetEntries", 203076998109167791), ("Batch.AddEntry", 3038206299650006946), ("Batch.AddADVEntry", 4400327255012259311), ("Batch.GetEntries", 203076998109167791), ("EntryDetail.AddAddenda05", 17576443769531133691), ("IATEntryDetail.AddAddenda17", 9511652058978471596), ("IATEntryDetail.AddAddenda18", 7366408766726201681), ("IsRefusedChangeCode", 8049444941795956086), ("IsDishonoredReturnCode", 12016782453472631544), ("IsContestedReturnCode", 11823052691814436629)] := rfl

/-- `parseLine` switches on the first column with exactly these cases, in this order, and a default (unknown record type) -/
theorem parseLine_cases : caseLists sw_parseLine 0 = [["1"], ["5"], ["6"], ["7"], ["8"], ["9"]] ∧
    (sw_parseLine.map (·.hasDflt)) = [true] ∧ (sw_parseLine.map (·.tag)) = ["r.line[:1]"] := ⟨rfl, rfl, rfl⟩

/-- `parseAddenda` switches on columns 2-3 with these cases and no default (other type codes are dropped) -/
theorem parseAddenda_cases : caseLists sw_parseAddenda 0 = [["02"], ["05"], ["98"], ["99"]] ∧
    (sw_parseAddenda.map (·.tag)) = ["r.line[1:3]", "", ""] ∧ (sw_parseAddenda.map (·.hasDflt)) = [false, true, true] ∧
    caseLists sw_parseAddenda 1 = [["expr:IsRefusedChangeCode(r.line[3:6])"]] ∧
    caseLists sw_parseAddenda 2 = [["expr:IsDishonoredReturnCode(r.line[3:6])"], ["expr:IsContestedReturnCode(r.line[3:6])"]] :=
  ⟨rfl, rfl, rfl, rfl, rfl⟩

theorem iatAddenda_cases :
    caseLists sw_switchIATAddenda 0 = [["10", "11", "12", "13", "14", "15", "16", "17", "18"], ["98"], ["99"]] ∧
    caseLists sw_mandatoryOptionalIATAddenda 0 = [["10"], ["11"], ["12"], ["13"], ["14"], ["15"], ["16"], ["17"], ["18"]] ∧
    (sw_switchIATAddenda.map (·.hasDflt)) = [false] ∧ (sw_mandatoryOptionalIATAddenda.map (·.hasDflt)) = [false] :=
  ⟨rfl, rfl, rfl, rfl⟩

def spanOf (pf : ParseFact) (field : String) : Option (Int × Int × String) :=
  (pf.spans.find? (·.field == field)).map fun s => (s.lo, s.hi, s.conv)

/-- the addenda record indicator is column 79 of all three entry layouts, the SEC code columns 51-53 of a batch header -/
theorem dispatch_columns :
    spanOf parse_EntryDetail "AddendaRecordIndicator" = some (78, 79, "r.parseNumField($)") ∧
    spanOf parse_ADVEntryDetail "AddendaRecordIndicator" = some (78, 79, "r.parseNumField($)") ∧
    spanOf parse_IATEntryDetail "AddendaRecordIndicator" = some (78, 79, "r.parseNumField($)") ∧
    spanOf parse_BatchHeader "StandardEntryClassCode" = some (50, 53, "$") := by decide +kernel

/-- **Reading what the Writer emits rebuilds the file**: for every well-formed tree (records in Writer order: file
header, standard / ADV batches, IAT batches, file control), every record validating, followed by any number of all-9
filler records, the Reader returns exactly that tree — every record in the place it was written from — and no error
unless the file control record itself fails validation (`vc`). -/
theorem read_emit (t : Tree) (ht : WFTree t) (vc : Bits) (fill : List Bits) :
    read (emitted t vc fill) = expected t vc := ReaderSM.read_emit t ht vc fill

/-- in particular a file whose control validates is accepted, with or without its blocking filler -/
theorem read_emit_accepted (t : Tree) (ht : WFTree t) (fill : List Bits) :
    (read (emitted t Bits.all fill)).errs = [] := by
  simp [ReaderSM.read_emit t ht, expected, controlValid, Bits.all]

/-- **No file control, no file**: whatever the records are and however they validate, if none of them is a file
control record the Reader reports `ErrFileControl` (default options). -/
theorem read_without_control (rs : List (Rec × Bits)) (hrs : ∀ r ∈ rs, r.1.isFC = false) :
    Err.missingControl ∈ (read rs).errs := ReaderSM.read_without_control rs hrs

/-- **Truncation before the file control** (at a record boundary, or inside a record: `tail` is what is left of
the cut record — its first column survives, so it is not a file control record) is rejected. -/
theorem read_truncated_body (t : Tree) (ht : WFTree t) (j : Nat) (vs : List Bits) (tail : List (Rec × Bits))
    (htail : ∀ r ∈ tail, r.1.isFC = false) :
    Err.missingControl ∈ (read (((body t).take j).zip vs ++ tail)).errs :=
  ReaderSM.read_truncated_body t ht j vs tail htail

/-- **Truncation inside the file control record**: the Reader returns the same tree with the cut control record in
place of the original (and rejects the text unless that record validates, `vc`) — see `C04.truncated_count_differs`
and `C04.tamper_file_control_rejected` for what validation then does. -/
theorem read_truncated_control (t : Tree) (ht : WFTree t) (id : Nat) (vc : Bits) :
    read (allOK (body t) ++ [(.fc id, vc)]) = expected { t with control := .fc id } vc := by
  simpa [emitted, body] using ReaderSM.read_emit { t with control := .fc id } { ht with control := ⟨id, rfl⟩ } vc []

/-- **Truncation inside the blocking filler**: a filler record cut after its first column reads as a second file
control record and is refused; cut anywhere later it is still filler and `read_emit` applies. -/
theorem read_truncated_filler (t : Tree) (ht : WFTree t) (vc : Bits) (fill : List Bits) (i : Nat) (v : Bits) :
    (read (emitted t vc fill ++ [(.fc i, v)])).errs ≠ [] := by
  have h : (step (expected t vc) (.fc i) v).errs = (expected t vc).errs ++ [.dupControl] := by
    cases hadv : isADV t.batches <;> simp [step, expected, hadv, St.err]
  rw [ReaderSM.read, run_append, run_emit t ht vc fill, finish_errs]
  simp [run, h]

/-- **The Reader only relaxes** (C15 at the level of `Read`): a record sequence accepted under some outcomes of the
record- and batch-level validations is accepted when more of them succeed and when a missing file header / control
becomes allowed. -/
theorem read_monotone (rs : List Rec) (vs ws : List Bits) (hv : vs.length = rs.length) (hw : ws.length = rs.length)
    (hle : ∀ i (h1 : i < vs.length) (h2 : i < ws.length), Bits.le vs[i] ws[i])
    (a b a' b' : Bool) (ha : a = true → a' = true) (hb : b = true → b' = true)
    (h : (finish a b (run init (rs.zip vs))).errs = []) : (finish a' b' (run init (rs.zip ws))).errs = [] := by
  have hrun : (run init (rs.zip vs)).errs = [] := by
    rw [finish_errs] at h
    exact (List.append_eq_nil_iff.1 h).1
  rw [run_mono rs init vs ws rfl hv hw hle hrun]
  exact finish_mono a b a' b' ha hb _ h

/-! ## the emission order is the Writer model's (`Ach.Writer.emit`, tied to writer.go by the `write` stream) -/

/-- an unparseable record is given the kind `filler`; a well-formed tree (`WFTree`) holds none -/
def kindOf : Rec → Writer.Kind
  | .fh .. => .fileHeader
  | .bh .. => .batchHeader
  | .ed .. => .entry
  | .ad .. => .addenda
  | .bc .. => .batchControl
  | .fc .. => .fileControl
  | .filler => .filler
  | .unknown _ => .filler

def shapeBatch (b : TBatch) : Writer.WBatch := ⟨b.entries.map fun e => ⟨e.addenda.length⟩⟩
def shape (t : Tree) : Writer.WFile := ⟨(t.batches ++ t.iatBatches).map shapeBatch⟩

theorem addenda_kinds (l : List (Slot × Rec)) (h : ∀ x ∈ l, kindOf x.2 = Writer.Kind.addenda) :
    (l.map (·.2)).map kindOf = List.replicate l.length Writer.Kind.addenda := by
  rw [List.map_map]
  exact (List.map_congr_left h).trans (List.map_const' ..)

theorem map_flatMap_eq {α β γ δ : Type} {f : α → List β} {g : β → γ} {h : α → δ} {k : δ → List γ} {l : List α}
    (H : ∀ a ∈ l, (f a).map g = k (h a)) : (l.flatMap f).map g = (l.map h).flatMap k := by
  rw [List.map_flatMap, List.flatMap_map, List.flatMap_def, List.flatMap_def, List.map_congr_left H]

theorem emitEntry_kinds {k : BKind} {e : TEntry} (he : WFEntry k e) :
    (emitEntry e).map kindOf = Writer.emitEntry ⟨e.addenda.length⟩ := by
  obtain ⟨id, hl⟩ := he.line.eq_ed
  have ha := addenda_kinds e.addenda fun x hx => by
    obtain ⟨std, iat, id, h⟩ := (he.slots x hx).eq_ad
    rw [h]; rfl
  rw [emitEntry, List.map_cons, ha, hl]; rfl

theorem entries_kinds (k : BKind) (es : List TEntry) (he : ∀ e ∈ es, WFEntry k e) :
    (es.flatMap emitEntry).map kindOf = (es.map fun e => (⟨e.addenda.length⟩ : Writer.WEntry)).flatMap Writer.emitEntry :=
  map_flatMap_eq fun e h => emitEntry_kinds (he e h)

theorem emitBatch_kinds (b : TBatch) (hb : WFBatch b) : (emitBatch b).map kindOf = Writer.emitBatch (shapeBatch b) := by
  obtain ⟨id, hh⟩ := hb.header.eq_bh
  obtain ⟨cid, hc⟩ := hb.control.eq_bc
  rw [emitBatch, List.map_cons, List.map_append, entries_kinds _ _ hb.entries, hh, hc]; rfl

theorem emit_kinds (t : Tree) (ht : WFTree t) : (emit t).map kindOf = Writer.emit (shape t) := by
  obtain ⟨hid, hh⟩ := ht.header
  obtain ⟨cid, hc⟩ := ht.control
  have hb : ∀ b ∈ t.batches ++ t.iatBatches, WFBatch b :=
    List.forall_mem_append.2 ⟨fun b h => (ht.batches b h).2, fun b h => (ht.iatBatches b h).2⟩
  rw [emit, ← List.flatMap_append, List.map_cons, List.map_append,
    map_flatMap_eq fun b h => emitBatch_kinds b (hb b h), hh, hc]; rfl

/-! ## non-vacuity: a concrete well-formed tree (header, a standard batch with an entry carrying two Addenda05, an
IAT batch with a three-addenda entry, control), read back by the executable model -/

def demoTree : Tree :=
  { header := .fh 1,
    batches := [⟨.std, .bh .std 2,
      [⟨.ed true 3, true, [(⟨1, true⟩, .ad (some ⟨1, true⟩) none 4), (⟨1, true⟩, .ad (some ⟨1, true⟩) none 5)]⟩,
       ⟨.ed false 6, false, []⟩],
      some (.bc 7)⟩],
    iatBatches := [⟨.iat, .bh .iat 8,
      [⟨.ed true 9, true, [(⟨0, false⟩, .ad none (some ⟨0, false⟩) 10), (⟨1, false⟩, .ad none (some ⟨1, false⟩) 11),
                           (⟨7, true⟩, .ad none (some ⟨7, true⟩) 12)]⟩],
      some (.bc 13)⟩],
    control := .fc 14 }

example : read (emitted demoTree Bits.all (List.replicate 6 Bits.all)) = expected demoTree Bits.all ∧
    (expected demoTree Bits.all).errs = [] := by decide +kernel

/-- the same records with one entry failing validation are rejected; `read_monotone`'s hypothesis is not vacuous -/
example : (read ((emit demoTree).zip (List.replicate 14 Bits.all))).errs = [] ∧
    (read ((emit demoTree).zip ((List.replicate 14 Bits.all).set 2 ⟨false, true, true, true⟩))).errs ≠ [] := by decide +kernel

example : WFTree demoTree := by
  refine ⟨⟨1, rfl⟩, ?_, ?_, ⟨14, rfl⟩⟩
  · intro b hb
    simp only [demoTree, List.mem_singleton] at hb
    subst hb
    refine ⟨by decide, rfl, ?_, trivial, by simp⟩
    simp only [List.forall_mem_cons]
    exact ⟨⟨rfl, fun _ => rfl, by simp only [List.forall_mem_cons]; exact ⟨rfl, rfl, by simp⟩, by simp [SlotLE]⟩,
      ⟨rfl, by simp, by simp, .nil⟩, by simp⟩
  · intro b hb
    simp only [demoTree, List.mem_singleton] at hb
    subst hb
    refine ⟨rfl, rfl, ?_, trivial, by simp⟩
    simp only [List.forall_mem_cons]
    exact ⟨⟨rfl, fun _ => rfl, by simp only [List.forall_mem_cons]; exact ⟨rfl, rfl, rfl, by simp⟩, by simp [SlotLE]⟩,
      by simp⟩

end Ach.Props.Dispatch
