import Ach.Props.Accepted
/-!
# The entry hash of an accepted batch is the sum over its entries (C03)

`Batch.calculateEntryHash` adds up, over all entries, the number read from the first eight digits of the receiving
routing number (`aba8`, then `strconv.Atoi` whose error is ignored) and keeps the ten least significant digits;
`Batch.isEntryHash` compares that with the control record.  Both are translated from the source on every run and shown
to be — today — the programs below.  The two loops of `calculateEntryHash` (standard entries, ADV entries) differ in the
name of a temporary and of the slice: one turn (`hashTurn`) and the loop (`hashLoop_exec`) are treated with those names
and the locals around `hash` as variables (so the loop of `IATBatch.calculateEntryHash`, which runs `hashBody` too, is an
instance), and the functions with `Batch.IsADV()`'s answer as a variable.
-/
namespace Ach.Props.AcceptedHash
open Ach Ach.GoLite Ach.Gen

def hashBody : Prog :=
  seqs [(seqs [(.sub "_t1" ["rtn"] [(.sel (.var "entry") "RDFIIdentification")] v_aba8),
      (.bind2 "entryRDFI" "_" (.call1 "strconv.Atoi" (.var "_t1")))]),
    (.assign "hash" (.add (.var "hash") (.var "entryRDFI")))]

/-- the standard-batch half of `calculateEntryHash` (the ADV half walks `ADVEntries` the same way) -/
def hashProgShape (p : Prog) : Prop :=
  ∃ advLoop : Prog, p =
    seqs [(.bind "hash" (.int 0)),
      (.block (seqs [(.sub "_t3" [] [] v_Batch_IsADV),
        (.ite (.not (.var "_t3")) (.forEach "entry" (.fld "Entries") hashBody) advLoop)])),
      (.ret (.call2 "leastSignificantDigits" (.var "hash") (.int 10)))]

/-- one turn of either loop; the translator calls the temporary `_t1` in the loop over `Entries` (`hashBody`), `_t2` in
the loop over `ADVEntries` (`advHashLoop`): `hashBody = hashTurn "_t1"` and the body of `advHashLoop` is
`hashTurn "_t2"` by `rfl`, which is how the lemmas about `hashTurn` apply to `hashProg` -/
def hashTurn (t : String) : Prog :=
  seqs [(seqs [(.sub t ["rtn"] [(.sel (.var "entry") "RDFIIdentification")] v_aba8),
      (.bind2 "entryRDFI" "_" (.call1 "strconv.Atoi" (.var t)))]),
    (.assign "hash" (.add (.var "hash") (.var "entryRDFI")))]

def advHashLoop : Prog :=
  .forEach "entry" (.fld "ADVEntries")
    (seqs [(seqs [(.sub "_t2" ["rtn"] [(.sel (.var "entry") "RDFIIdentification")] v_aba8),
        (.bind2 "entryRDFI" "_" (.call1 "strconv.Atoi" (.var "_t2")))]),
      (.assign "hash" (.add (.var "hash") (.var "entryRDFI")))])

def hashProg : Prog :=
  seqs [(.bind "hash" (.int 0)),
    (.block (seqs [(.sub "_t3" [] [] v_Batch_IsADV),
      (.ite (.not (.var "_t3")) (.forEach "entry" (.fld "Entries") hashBody) advHashLoop)])),
    (.ret (.call2 "leastSignificantDigits" (.var "hash") (.int 10)))]

theorem calculateEntryHash_shape : v_Batch_calculateEntryHash = hashProg := rfl

/-- what one entry adds to the hash, as the code computes it: `aba8(rdfi)` read as a number (0 when it is not one) -/
def rdfiContribution (c : Ctx) (r : Str) : Option Int :=
  match (exec v_aba8 c [("rtn", .str r)]).2 with
  | .ret (.str s) =>
      match builtin1 c.ext "strconv.Atoi" (.str s) with
      | .pair (.int v) _ => some v
      | _ => none
  | _ => none

theorem rdfiContribution_some {c : Ctx} {r : Str} {v : Int} (h : rdfiContribution c r = some v) :
    ∃ s y, (exec v_aba8 c [("rtn", .str r)]).2 = .ret (.str s) ∧
      builtin1 c.ext "strconv.Atoi" (.str s) = .pair (.int v) y := by
  unfold rdfiContribution at h
  split at h
  · rename_i s hs
    split at h
    · rename_i v' y hA
      rw [Option.some.inj h] at hA
      exact ⟨s, y, hs, hA⟩
    · simp at h
  · simp at h

/-- a turn needs to know of the locals only where `hash` is -/
theorem hashTurn_exec (c : Ctx) (t : String) (ht : (t == "hash") = false) {l l' : Locals} {ep : String} {r : Str}
    {v a : Int} (hl : lookup l "hash" = .int a) (hu : update l "hash" (.int (a + v)) = some l')
    (hr : lookup c.fields (joinPath ep "RDFIIdentification") = .str r)
    (hv : rdfiContribution c r = some v) :
    (exec (hashTurn t) c (("entry", .ref ep) :: l)).2 = .next ∧
    scopeExit l (exec (hashTurn t) c (("entry", .ref ep) :: l)).1 = l' := by
  obtain ⟨s, y, hS, hA⟩ := rdfiContribution_some hv
  have hx : exec (hashTurn t) c (("entry", .ref ep) :: l) =
      (("_", y) :: ("entryRDFI", .int v) :: (t, .str s) :: ("entry", .ref ep) :: l', .next) := by
    simp [hashTurn, seqs, exec, eval, lookup, hr, hS, subResult, hA, arith, update, ht, hl, hu]
  exact step_of_exec [_, _, _, _] hx (update_length hu)

theorem hashLoop_exec (c : Ctx) (t coll : String) (ht : (t == "hash") = false) (st : Int → Locals)
    (hst : ∀ a, lookup (st a) "hash" = .int a) (hupd : ∀ a a', update (st a) "hash" (.int a') = some (st a'))
    (p : String) (n : Nat) (r : Nat → Str) (hv : Nat → Int)
    (hE : lookup c.fields (joinPath c.recv coll) = .lst p n)
    (hr : ∀ i, i < n → lookup c.fields (joinPath (elemPath p i) "RDFIIdentification") = .str (r i))
    (hc : ∀ i, i < n → rdfiContribution c (r i) = some (hv i)) :
    exec (.forEach "entry" (.fld coll) (hashTurn t)) c (st 0) = (st ((List.range n).map hv).sum, .next) := by
  rw [forEach_sums st hv 0 (by simp [eval, hE])
    (fun i hi a => hashTurn_exec c t ht (hst a) (hupd a _) (hr i hi) (hc i hi)), Int.zero_add]

theorem calculateEntryHash_exec (c : Ctx) (b : Bool) (hadv : (exec v_Batch_IsADV c []).2 = .ret (.bool b)) {S : Int}
    (hloop : exec (bif b then advHashLoop else .forEach "entry" (.fld "Entries") hashBody) c
        [("_t3", .bool b), ("hash", .int 0)] = ([("_t3", .bool b), ("hash", .int S)], .next)) :
    (exec v_Batch_calculateEntryHash c []).2 = .ret (.int (leastSignificantDigits S 10)) := by
  simp only [calculateEntryHash_shape, hashProg, seqs]
  rw [exec_seq_next (exec_bind_int ..), exec_seq_next (l1 := [("hash", .int S)])]
  · simp [exec, eval, lookup, builtin2]
  · rw [exec_callSwitch hadv, hloop]
    simp [scopeExit]

/-- `Batch.calculateEntryHash()` of a standard batch returns the ten least significant digits of the sum of the entries'
contributions — for batches of any size -/
theorem calculateEntryHash_spec (c : Ctx) (hp p : String) (n : Nat) (r : Nat → Str) (hv : Nat → Int) (sec : Str)
    (hH : lookup c.fields (joinPath c.recv "Header") = .ref hp)
    (hsec : lookup c.fields (joinPath hp "StandardEntryClassCode") = .str sec) (hnadv : sec ≠ ['A', 'D', 'V'])
    (hE : lookup c.fields (joinPath c.recv "Entries") = .lst p n)
    (hr : ∀ i, i < n → lookup c.fields (joinPath (elemPath p i) "RDFIIdentification") = .str (r i))
    (hc : ∀ i, i < n → rdfiContribution c (r i) = some (hv i)) :
    (exec v_Batch_calculateEntryHash c []).2 =
      .ret (.int (leastSignificantDigits (((List.range n).map hv).sum) 10)) :=
  calculateEntryHash_exec c false (Accepted.batch_isADV_false c hp sec hH hsec hnadv)
    (hashLoop_exec c "_t1" "Entries" (by decide) (fun a => [("_t3", .bool false), ("hash", .int a)]) (fun _ => rfl)
      (fun _ _ => rfl) p n r hv hE hr hc)

/-- the comparison of `isEntryHash` with the control record `ctl` (`Control`, or `ADVControl` of an ADV batch) -/
def hashGuard (ctl : String) : Prog :=
  .ite (.ne (.var "hashField") (.sel (.fld ctl) "EntryHash")) (.ret (.mkErr "EntryHash")) .skip

def isEntryHashProg : Prog :=
  seqs [(seqs [(.sub "_t1" [] [] v_Batch_calculateEntryHash), (.bind "hashField" (.var "_t1"))]),
    (.block (seqs [(.sub "_t2" [] [] v_Batch_IsADV),
      (.ite (.not (.var "_t2")) (hashGuard "Control") (hashGuard "ADVControl"))])),
    (.ret .nil)]

theorem isEntryHash_shape : v_Batch_isEntryHash = isEntryHashProg := rfl

theorem hashGuard_next (c : Ctx) {ctl cp : String} {l : Locals} {H e : Int}
    (hl : lookup l "hashField" = .int H)
    (hC : lookup c.fields (joinPath c.recv ctl) = .ref cp)
    (he : lookup c.fields (joinPath cp "EntryHash") = .int e)
    (h : (exec (hashGuard ctl) c l).2 = .next) : e = H := by
  have hg := (guard_next h).1
  simp [eval, hl, hC, he, cmpVals] at hg
  exact hg.symm

/-- `Batch.isEntryHash()` returns nil only if the control record of the batch's kind carries what
`calculateEntryHash` returns -/
theorem isEntryHash_accepts (c : Ctx) (b : Bool) (hadv : (exec v_Batch_IsADV c []).2 = .ret (.bool b)) {cp : String}
    {H e : Int}
    (hC : lookup c.fields (joinPath c.recv (bif b then "ADVControl" else "Control")) = .ref cp)
    (he : lookup c.fields (joinPath cp "EntryHash") = .int e)
    (hcalc : (exec v_Batch_calculateEntryHash c []).2 = .ret (.int H))
    (h : (exec v_Batch_isEntryHash c []).2 = .ret (.err none)) : e = H := by
  have e1 : exec (.seq (.sub "_t1" [] [] v_Batch_calculateEntryHash) (.bind "hashField" (.var "_t1"))) c [] =
      ([("hashField", .int H), ("_t1", .int H)], .next) := by
    simp [exec, eval, hcalc, subResult, lookup]
  simp only [isEntryHash_shape, isEntryHashProg, seqs] at h
  rw [exec_seq_next e1] at h
  have hguard := accept_seq_left (by decide) h
  rw [exec_callSwitch_sig hadv] at hguard
  cases b <;> exact hashGuard_next c (by simp [lookup]) hC he hguard

/-- the statement of `Batch.verify` that runs `isEntryHash` is the seventh, and the six before it can only reject -/
theorem verify_runs_entry_hash_check :
    (stmts v_Batch_verify).drop 6 = (.check none v_Batch_isEntryHash) :: (stmts v_Batch_verify).drop 7 ∧
    (stmts v_Batch_verify).drop 7 ≠ [] ∧
    ((stmts v_Batch_verify).take 6).all (fun q => rejectOnly q && noAssign q) = true :=
  ⟨rfl, by decide +kernel, by decide +kernel⟩

/-- C03, entry hash — for every standard (non-ADV) batch value, of any size: if `Batch.verify()` (translated from the
source on this run) returns nil, the control's entry hash is the ten least significant digits of the sum, over the
entries, of the number `aba8` and `strconv.Atoi` read from the receiving routing number -/
theorem accepted_batch_entry_hash (c : Ctx) (hp cp p : String) (n : Nat) (r : Nat → Str) (hv : Nat → Int) (sec : Str) (e : Int)
    (hH : lookup c.fields (joinPath c.recv "Header") = .ref hp)
    (hsec : lookup c.fields (joinPath hp "StandardEntryClassCode") = .str sec) (hnadv : sec ≠ ['A', 'D', 'V'])
    (hC : lookup c.fields (joinPath c.recv "Control") = .ref cp)
    (he : lookup c.fields (joinPath cp "EntryHash") = .int e)
    (hE : lookup c.fields (joinPath c.recv "Entries") = .lst p n)
    (hr : ∀ i, i < n → lookup c.fields (joinPath (elemPath p i) "RDFIIdentification") = .str (r i))
    (hc : ∀ i, i < n → rdfiContribution c (r i) = some (hv i))
    (ha : run c v_Batch_verify = .accept) :
    e = leastSignificantDigits (((List.range n).map hv).sum) 10 :=
  isEntryHash_accepts c false (Accepted.batch_isADV_false c hp sec hH hsec hnadv) hC he
    (calculateEntryHash_spec c hp p n r hv sec hH hsec hnadv hE hr hc)
    (run_passes_check Accepted.verify_statements.2 ha (k := 6) rfl)

/-- the translated `aba8` computes the model's `aba8` on ASCII routing numbers -/
theorem aba8_exec (c : Ctx) (r : Str) (ha : allAscii r = true) :
    (exec v_aba8 c [("rtn", .str r)]).2 = .ret (.str (aba8 r)) := by
  have e0 : exec (.bind "n" (.call1 "utf8.RuneCountInString" (.var "rtn"))) c [("rtn", .str r)] =
      ([("n", .int r.length), ("rtn", .str r)], .next) := by simp [exec, eval, lookup, builtin1]
  simp only [v_aba8, seqs]
  rw [exec_seq_next e0]
  unfold aba8
  -- code and model branch on the length alike: the code compares it as an `Int`, the model as a `Nat`
  obtain h | h | h | h | h : r.length ≤ 7 ∨ r.length = 8 ∨ r.length = 9 ∨ r.length = 10 ∨ 11 ≤ r.length := by omega
  · have : ¬ (10 < (r.length : Int)) ∧ ¬ (r.length : Int) = 10 ∧ ¬ (r.length : Int) = 8 ∧ ¬ (r.length : Int) = 9 ∧
        ¬ (10 < r.length) ∧ ¬ r.length = 10 ∧ ¬ r.length = 8 ∧ ¬ r.length = 9 := by omega
    simp [exec, eval, lookup, cmpVals, this]
  · simp [exec, eval, lookup, cmpVals, h, builtin3, sliceAscii, ha]
  · simp [exec, eval, lookup, cmpVals, h, builtin3, sliceAscii, ha]
  · -- ten bytes: the first one decides (`rtn[0] == '0' || rtn[0] == '1'`, compared as byte values 48 and 49)
    obtain ⟨a, rest, rfl⟩ := List.exists_cons_of_length_eq_add_one h
    have hl : rest.length = 9 := by simpa using h
    have hi : builtin2 "index" (.str (a :: rest)) (.int 0) = .int a.toNat := by simp [builtin2, ha]
    have hs : builtin3 "slice" (.str (a :: rest)) (.int 1) (.int 9) = .str (rest.take 8) := by
      simp [builtin3, sliceAscii, ha, hl]
    by_cases h0 : a = '0'
    · subst h0
      simp [exec, eval, lookup, cmpVals, hl, hi, hs, scopeExit]
    · by_cases h1 : a = '1'
      · subst h1
        simp [exec, eval, lookup, cmpVals, hl, hi, hs, scopeExit]
      · have hch : ∀ x : Char, ((a.toNat : Int) = x.toNat) = (a = x) := fun x => by
          rw [Int.natCast_inj, Char.toNat_inj]
        have h48 : ((a.toNat : Int) = 48) = (a = '0') := hch '0'
        have h49 : ((a.toNat : Int) = 49) = (a = '1') := hch '1'
        simp [exec, eval, lookup, cmpVals, hl, hi, h48, h49, h0, h1, scopeExit]
  · have : 10 < (r.length : Int) ∧ 10 < r.length := by omega
    simp [exec, eval, lookup, cmpVals, this]

theorem signSplit_len (s : Str) : (signSplit s).2.length ≤ s.length := by
  unfold signSplit
  split <;> simp

/-- every branch of `aba8` is empty or a `take 8` -/
theorem aba8_len (r : Str) : (aba8 r).length ≤ 8 := by
  unfold aba8
  grind

/-- the number an entry adds to the hash: `aba8(rdfi)` read by `strconv.Atoi`, 0 when that fails (Go ignores the error) -/
def rdfiNumber (r : Str) : Int :=
  match atoi (aba8 r) with
  | some v => v
  | none => 0

theorem rdfiContribution_ascii (c : Ctx) (r : Str) (ha : allAscii r = true) :
    rdfiContribution c r = some (rdfiNumber r) := by
  have hlen : ¬ 18 < (signSplit (aba8 r)).2.length := by
    have := signSplit_len (aba8 r)
    have := aba8_len r
    omega
  unfold rdfiContribution rdfiNumber
  simp only [aba8_exec c r ha, builtin1]
  cases atoi (aba8 r) <;> simp [hlen]

/-- C03, entry hash, closed form — for every standard batch whose receiving routing numbers are ASCII text (any size):
an accepted batch's control carries the ten least significant digits of the sum of the numbers read from the first
eight digits of the routing numbers -/
theorem accepted_batch_entry_hash_ascii (c : Ctx) (hp cp p : String) (n : Nat) (r : Nat → Str) (sec : Str) (e : Int)
    (hH : lookup c.fields (joinPath c.recv "Header") = .ref hp)
    (hsec : lookup c.fields (joinPath hp "StandardEntryClassCode") = .str sec) (hnadv : sec ≠ ['A', 'D', 'V'])
    (hC : lookup c.fields (joinPath c.recv "Control") = .ref cp)
    (he : lookup c.fields (joinPath cp "EntryHash") = .int e)
    (hE : lookup c.fields (joinPath c.recv "Entries") = .lst p n)
    (hr : ∀ i, i < n → lookup c.fields (joinPath (elemPath p i) "RDFIIdentification") = .str (r i))
    (hascii : ∀ i, i < n → allAscii (r i) = true)
    (ha : run c v_Batch_verify = .accept) :
    e = leastSignificantDigits (((List.range n).map (fun i => rdfiNumber (r i))).sum) 10 :=
  accepted_batch_entry_hash c hp cp p n r (fun i => rdfiNumber (r i)) sec e hH hsec hnadv hC he hE hr
    (fun i hi => rdfiContribution_ascii c (r i) (hascii i hi)) ha

example : rdfiNumber "23138010".toList = 23138010 := by decide +kernel
example : rdfiNumber "231380104".toList = 23138010 := by decide +kernel
example : rdfiNumber "0231380104".toList = 23138010 := by decide +kernel

end Ach.Props.AcceptedHash
