import Ach.Proofs.GoLite
import Ach.Generated.Validators
/-!
# The translated validators: record, batch and file level (shared by C02, C03, C14, C15)

The programs in `Ach.Gen.validatorProgs` are translated from /repo's `Validate` / `ValidateWith` /
`fieldInclusion` / `…OverflowsField` methods and the `validator` helpers on every run (gofacts/golite.go), and
interpreted by `Ach.GoLite.run`.  Obligations:

* `validator_entries`, `validators_translated`: every record type still has its entry point and the translator
  understood every statement and every built-in of every function (no `unknown` node);
* `validators_relax_shape`: every occurrence of a relaxation flag in those functions has one of the two shapes
  `if !flag { checks that can only reject }` / `if flag { return nil }` — a *regenerated* fact about today's source;
* `record_validators_monotone` (C15): hence, for every record type and every SEC batch type, every receiver value
  and every pair of option sets O ⊆ O', a record / batch accepted under O is accepted under O' (`relax_mono`, proved
  once for the interpreter — loops, calls on other records and early returns included — for all programs of that
  shape).  The batch validators are `BatchXXX.Validate`: `Batch.verify` and everything it calls (field inclusion =
  the record validators of every record of the batch, header/control equalities, entry count, ascending traces, totals,
  hash, trace ODFI, addenda sequence, category) and the per-entry rules of the SEC code; every record of the batch is
  taken to carry the same options (what the Reader and File.SetValidation produce);
* `entry_amount_in_field`, `batch_control_totals_in_field`, `file_control_totals_in_field` (C03),
  `file_header_constants` (C02): an accepted entry has 0 ≤ Amount ≤ 9,999,999,999, accepted controls have totals that
  fit their 12-digit fields and an accepted file header carries the NACHA constants, read off the guards on the spine of
  today's functions (`guard_false`, from `spine_sound`).

Trusted: the translator (syntactic; tied behaviourally by the `recvalidate` stream: real validators vs `run` on
harvested and mutated records of all 26 types × option sets — and by the `batchvalidate` stream: real
`BatchXXX.Validate()` of all 22 SEC codes on generator batches with mutated fields / entries / addenda × option sets vs
`run`, accept or the FieldName of the outermost error compared — and, for `File.ValidateWith`, by the `filevalidate`
stream); the hand-written built-ins of `Ach.GoLite`
(converters, strconv, …) — same stream; of these `isUpperASCII`, `isAlphanumeric` and, on ASCII arguments,
`CalculateCheckDigit` are shown to be what the translated Go functions compute (`Ach.Props.RuneClassCode`,
`Ach.Props.CheckDigitCode`).
-/

namespace Ach.Props.Validators
open Ach.GoLite Ach.Gen

/-- every record type has its validator entry point -/
theorem validator_entries : validatorEntries =
    ["ADVBatchControl.Validate", "ADVEntryDetail.Validate", "ADVFileControl.Validate", "Addenda02.Validate",
     "Addenda05.Validate", "Addenda10.Validate", "Addenda11.Validate", "Addenda12.Validate", "Addenda13.Validate",
     "Addenda14.Validate", "Addenda15.Validate", "Addenda16.Validate", "Addenda17.Validate", "Addenda18.Validate",
     "Addenda98.Validate", "Addenda98Refused.Validate", "Addenda99.Validate", "Addenda99Contested.Validate",
     "Addenda99Dishonored.Validate", "BatchControl.Validate", "BatchHeader.Validate", "EntryDetail.Validate",
     "FileControl.Validate", "FileHeader.ValidateWith", "IATBatchHeader.Validate", "IATEntryDetail.Validate"] := rfl

/-- every SEC code has its batch validator entry point -/
theorem batch_validator_entries : batchValidatorEntries =
    ["BatchACK.Validate", "BatchADV.Validate", "BatchARC.Validate", "BatchATX.Validate", "BatchBOC.Validate",
     "BatchCCD.Validate", "BatchCIE.Validate", "BatchCOR.Validate", "BatchCTX.Validate", "BatchDNE.Validate",
     "BatchENR.Validate", "BatchMTE.Validate", "BatchPOP.Validate", "BatchPOS.Validate", "BatchPPD.Validate",
     "BatchRCK.Validate", "BatchSHR.Validate", "BatchTEL.Validate", "BatchTRC.Validate", "BatchTRX.Validate",
     "BatchWEB.Validate", "BatchXCK.Validate", "IATBatch.Validate"] := rfl

/-- the file-level entry point -/
theorem file_validator_entries : fileValidatorEntries = ["File.ValidateWith"] := rfl

theorem all_lookup_isSome {es : List String} {l : List (String × Prog)} (h : es.isSublist (l.map (·.1)) = true) :
    es.all (fun e => (l.lookup e).isSome) = true := by
  rw [List.all_eq_true]
  intro e he
  obtain ⟨p, hp, rfl⟩ := List.mem_map.mp ((List.isSublist_iff_sublist.mp h).subset he)
  exact List.lookup_isSome_iff.mpr ⟨p, hp, beq_self_eq_true _⟩

/-- every entry point was translated -/
theorem validator_entries_present :
    (validatorEntries ++ batchValidatorEntries ++ fileValidatorEntries).all (fun e => (validatorProgs.lookup e).isSome) = true :=
  -- the translator emits the functions entry point by entry point (callees first), in the order of the three lists:
  -- one pass over the table finds them all, where a look-up per entry point would walk the table again each time
  all_lookup_isSome (by decide +kernel)

/-- the translator understood every statement, expression and built-in of every function -/
theorem validators_translated : validatorProgs.all (fun p => progKnown p.2) = true := by decide +kernel

/-- every use of a relaxation flag has a relaxing shape — in every translated function, the IAT ones included
(`IATBatch.isBatchEntryCount` returns (count, error); its only translated caller discards the count, so it is
translated as the function returning the error: `…#err`) -/
theorem validators_relax_shape : validatorProgs.all (fun p => relaxOK p.2) = true := by decide +kernel

/-- C15 for every translated validator — the 26 record validators and the 22 SEC batch validators (`Batch.verify`,
its helpers, the record validators of every record in the batch, the per-entry SEC rules): acceptance is monotone in
the relaxation flags (receiver options and `ValidateWith` parameter alike), for every receiver value -/
theorem record_validators_monotone (name : String) (p : Prog) (hp : (name, p) ∈ validatorProgs)
    (c c' : Ctx) (h : CtxLe c c') (ha : run c p = .accept) : run c' p = .accept :=
  run_mono h p (List.all_eq_true.mp validators_relax_shape (name, p) hp) ha

/-- C15 for in-memory validation as a whole: `File.ValidateWith` — file header, every batch through the validator of
its own SEC code (dispatch on the dynamic type), file control, batch count, entry/addenda count, totals, batch-number
order, entry hash — accepts under O' whatever it accepts under O ⊆ O', for every file value (receiver and parameter
options alike, every record carrying the same options; files in which `File.IsADV` would have to repair a missing
batch header or control are outside the embedding: the run is stuck there, under both option sets) -/
theorem file_validate_monotone (c c' : Ctx) (h : CtxLe c c')
    (ha : run c v_File_ValidateWith = .accept) : run c' v_File_ValidateWith = .accept :=
  -- `simp` finds the row by its name; deciding the membership would compare the programs node by node
  record_validators_monotone "File.ValidateWith" v_File_ValidateWith (by simp [validatorProgs]) c c' h ha

/-- the same for IAT batches: `IATBatch.Validate` (verify, the IAT record validators, the IAT addenda rules) -/
theorem iat_batch_validate_monotone (c c' : Ctx) (h : CtxLe c c')
    (ha : run c v_IATBatch_Validate = .accept) : run c' v_IATBatch_Validate = .accept :=
  record_validators_monotone "IATBatch.Validate" v_IATBatch_Validate (by simp [validatorProgs]) c c' h ha

theorem accept_ret (c : Ctx) (p : Prog) (ha : run c p = .accept) : (exec p c []).2 = .ret (.err none) :=
  run_accept.mp ha

theorem guard_false {c : Ctx} {p : Prog} (ha : run c p = .accept) {e : Expr} (he : e ∈ spine p) :
    eval c [] e = .bool false :=
  spine_sound c p [] (Or.inl (run_accept.mp ha)) e he

theorem field_le_of_guard {c : Ctx} {p : Prog} (ha : run c p = .accept) (hroot : c.recv = "") {f : String}
    {v bound : Int} (hf : lookup c.fields f = .int v) (he : .gt (.fld f) (.int bound) ∈ spine p) : v ≤ bound := by
  have h := guard_false ha he
  simp [eval, hroot, joinPath, hf, cmpVals] at h
  omega

/-- C03: an entry accepted by `EntryDetail.Validate`, wherever it is stored (the receiver path is arbitrary), has a
non-negative amount that fits its 10-digit field -/
theorem entry_amount_in_field_at (c : Ctx) (a : Int) (hf : lookup c.fields (joinPath c.recv "Amount") = .int a)
    (ha : run c v_EntryDetail_Validate = .accept) : 0 ≤ a ∧ a ≤ 9999999999 := by
  have h1 := guard_false ha (e := .lt (.fld "Amount") (.int 0)) (by decide +kernel)
  have h2 := guard_false ha (e := .gt (.fld "Amount") (.int 9999999999)) (by decide +kernel)
  simp [eval, hf, cmpVals] at h1 h2
  omega

/-- C03: the same for an entry that is the root record -/
theorem entry_amount_in_field (c : Ctx) (a : Int) (hroot : c.recv = "") (hf : lookup c.fields "Amount" = .int a)
    (ha : run c v_EntryDetail_Validate = .accept) : 0 ≤ a ∧ a ≤ 9999999999 :=
  entry_amount_in_field_at c a (by simpa [hroot, joinPath] using hf) ha

/-- C03: accepted batch controls carry totals that fit their 12-digit fields -/
theorem batch_control_totals_in_field (c : Ctx) (d cr : Int) (hroot : c.recv = "")
    (hd : lookup c.fields "TotalDebitEntryDollarAmount" = .int d)
    (hc : lookup c.fields "TotalCreditEntryDollarAmount" = .int cr)
    (ha : run c v_BatchControl_Validate = .accept) : d ≤ 999999999999 ∧ cr ≤ 999999999999 :=
  ⟨field_le_of_guard ha hroot hd (by decide +kernel), field_le_of_guard ha hroot hc (by decide +kernel)⟩

/-- C03: accepted file controls carry totals that fit their 12-digit fields -/
theorem file_control_totals_in_field (c : Ctx) (d cr : Int) (hroot : c.recv = "")
    (hd : lookup c.fields "TotalDebitEntryDollarAmountInFile" = .int d)
    (hc : lookup c.fields "TotalCreditEntryDollarAmountInFile" = .int cr)
    (ha : run c v_FileControl_Validate = .accept) : d ≤ 999999999999 ∧ cr ≤ 999999999999 :=
  ⟨field_le_of_guard ha hroot hd (by decide +kernel), field_le_of_guard ha hroot hc (by decide +kernel)⟩

/-- C02: an accepted file header carries the fixed NACHA constants (record size 094, blocking factor 10, format code 1)
and a one-byte file ID modifier -/
theorem file_header_constants (c : Ctx) (rs bf fc fm : Str) (hroot : c.recv = "")
    (h1 : lookup c.fields "recordSize" = .str rs) (h2 : lookup c.fields "blockingFactor" = .str bf)
    (h3 : lookup c.fields "formatCode" = .str fc) (h4 : lookup c.fields "FileIDModifier" = .str fm)
    (ha : run c v_FileHeader_ValidateWith = .accept) :
    rs = "094".toList ∧ bf = "10".toList ∧ fc = "1".toList ∧ byteLen fm = 1 := by
  have g1 := guard_false ha (e := .ne (.fld "recordSize") (.str "094")) (by decide +kernel)
  have g2 := guard_false ha (e := .ne (.fld "blockingFactor") (.str "10")) (by decide +kernel)
  have g3 := guard_false ha (e := .ne (.fld "formatCode") (.str "1")) (by decide +kernel)
  have g4 := guard_false ha (e := .ne (.call1 "len" (.fld "FileIDModifier")) (.int 1)) (by decide +kernel)
  simp [eval, hroot, joinPath, h1, h2, h3, h4, cmpVals, builtin1] at g1 g2 g3 g4
  exact ⟨g1, g2, g3, by exact_mod_cast g4⟩

/-! ### the hypotheses are satisfiable, and the flags matter (non-vacuity) -/

def sampleEntry (check : String) : Ctx where
  fields := [("TransactionCode", .int 22), ("RDFIIdentification", .str "23138010".toList), ("CheckDigit", .str check.toList),
    ("DFIAccountNumber", .str "12345678".toList), ("Amount", .int 100000), ("IdentificationNumber", .str "".toList),
    ("IndividualName", .str "Receiver Name".toList), ("DiscretionaryData", .str "".toList),
    ("AddendaRecordIndicator", .int 0), ("TraceNumber", .str "121042880000001".toList), ("Category", .str "Forward".toList)]
  recvFlags := []
  paramFlags := []
  ext := []

example : run (sampleEntry "4") v_EntryDetail_Validate = .accept := by decide +kernel
example : run (sampleEntry "5") v_EntryDetail_Validate = .reject "RDFIIdentification" := by decide +kernel
example : run { sampleEntry "5" with recvFlags := ["AllowInvalidCheckDigit"] } v_EntryDetail_Validate = .accept := by
  decide +kernel
example : CtxLe (sampleEntry "5") { sampleEntry "5" with recvFlags := ["AllowInvalidCheckDigit"] } :=
  CtxLe.recvFlags _ _
    (fun n h hn => by
      rw [List.mem_singleton.mp h] at hn
      simp [relaxFlags] at hn)
    (fun n h => by simp [sampleEntry] at h)

end Ach.Props.Validators
