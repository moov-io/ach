import Ach.Props.AcceptedAscending
import Ach.Props.AcceptedCount
import Ach.Props.AcceptedIAT
/-!
# IAT batches: entry/addenda count, ascending trace numbers (C03)

The loop body of `IATBatch.isBatchEntryCount` is eleven `entryCount += …` statements of three forms (`IItem`): one for the
entry, one per addenda pointer that is set, one for the lengths of two slices.  `itemVal` says what each adds for a given
entry, and the loop adds their sum per entry.  `IATBatch.isSequenceAscending` runs the loop body of the standard batch
(`ascBody`), starting from "-1".
-/

namespace Ach.Props.AcceptedIATCount
open Ach Ach.GoLite Ach.Gen
open Ach.Props.AcceptedAscending

inductive IItem where
  | one
  | ptr (f : String)
  | lens (f g : String)
deriving DecidableEq, Repr

def bump (e : Expr) : Prog := .assign "entryCount" (.add (.var "entryCount") e)

def itemStmt : IItem → Prog
  | .one => bump (.int 1)
  | .ptr f => .ite (.ne (.sel (.var "entry") f) .nil) (bump (.int 1)) .skip
  | .lens f g => bump (.add (.call1 "len" (.sel (.var "entry") f)) (.call1 "len" (.sel (.var "entry") g)))

/-- what `IATBatch.isBatchEntryCount` counts per entry, in its order: the entry record, the seven mandatory addenda, the
Addenda17 and Addenda18 records, an Addenda98, an Addenda99 -/
def iatItems : List IItem :=
  [.one, .ptr "Addenda10", .ptr "Addenda11", .ptr "Addenda12", .ptr "Addenda13", .ptr "Addenda14", .ptr "Addenda15",
   .ptr "Addenda16", .lens "Addenda17" "Addenda18", .ptr "Addenda98", .ptr "Addenda99"]

theorem iat_isBatchEntryCount_shape :
    v_IATBatch_isBatchEntryCount_err =
      seqs [(.bind "entryCount" (.int 0)), (.forEach "entry" (.fld "Entries") (seqs (iatItems.map itemStmt))),
        Ach.Props.AcceptedCount.countGuard "Control", (.ret .nil)] := rfl

def lenOf (v : Val) : Option Int :=
  match v with
  | .lst _ n => some n
  | .nilp => some 0
  | _ => none

def itemVal (c : Ctx) (ep : String) : IItem → Option Int
  | .one => some 1
  | .ptr f => match lookup c.fields (joinPath ep f) with
      | .ref _ => some 1
      | .nilp => some 0
      | _ => none
  | .lens f g => match lenOf (lookup c.fields (joinPath ep f)), lenOf (lookup c.fields (joinPath ep g)) with
      | some a, some b => some (a + b)
      | _, _ => none

theorem len_of_lenOf {ext : List (String × Bool)} {v : Val} {n : Int} (h : lenOf v = some n) :
    builtin1 ext "len" v = .int n := by
  cases v with
  | lst p m => cases h; rfl
  | nilp => cases h; rfl
  | _ => cases h

theorem itemStmt_exec (c : Ctx) (ep : String) (it : IItem) (v a : Int) (rest : Locals) (hv : itemVal c ep it = some v) :
    exec (itemStmt it) c (("entry", .ref ep) :: ("entryCount", .int a) :: rest) =
      (("entry", .ref ep) :: ("entryCount", .int (a + v)) :: rest, .next) := by
  cases it with
  | one =>
      cases hv
      simp [itemStmt, bump, exec, eval, lookup, arith, update]
  | ptr f =>
      simp only [itemVal] at hv
      split at hv
      · rename_i q hq
        cases hv
        simp [itemStmt, bump, exec, eval, lookup, hq, cmpVals, arith, update, scopeExit]
      · rename_i hq
        cases hv
        simp [itemStmt, bump, exec, eval, lookup, hq, cmpVals, scopeExit]
      · cases hv
  | lens f g =>
      simp only [itemVal] at hv
      split at hv
      · rename_i x y hx hy
        cases hv
        simp [itemStmt, bump, exec, eval, lookup, len_of_lenOf hx, len_of_lenOf hy, arith, update]
      · cases hv

theorem items_exec (c : Ctx) (ep : String) (rest : Locals) :
    ∀ (items : List IItem) (vals : List Int) (a : Int), items.map (itemVal c ep) = vals.map some →
      exec (seqs (items.map itemStmt)) c (("entry", .ref ep) :: ("entryCount", .int a) :: rest) =
        (("entry", .ref ep) :: ("entryCount", .int (a + vals.sum)) :: rest, .next)
  | [], [], a, _ => by simp [seqs, exec]
  | it :: items, v :: vs, a, hv => by
      simp only [List.map_cons, List.cons.injEq] at hv
      rw [List.map_cons, exec_seqs_cons_next (itemStmt_exec c ep it v a rest hv.1), items_exec c ep rest items vs (a + v) hv.2,
        List.sum_cons, Int.add_assoc]
  | [], _ :: _, _, hv | _ :: _, [], _, hv => by simp at hv

/-- C03, IAT — `IATBatch.isBatchEntryCount()` returns a nil error, with `UnequalAddendaCounts` off, only if the control's
entry/addenda count is the number of entry records plus all their addenda records (10–16, every 17 and 18, 98, 99) —
for batches of any size -/
theorem iat_isBatchEntryCount_accepts (c : Ctx) (cp p : String) (n : Nat) (vals : Nat → List Int) (e : Int)
    (hflag : hasFlag c "recv" "UnequalAddendaCounts" = false)
    (hC : lookup c.fields (joinPath c.recv "Control") = .ref cp)
    (he : lookup c.fields (joinPath cp "EntryAddendaCount") = .int e)
    (hE : lookup c.fields (joinPath c.recv "Entries") = .lst p n)
    (hv : ∀ i, i < n → iatItems.map (itemVal c (elemPath p i)) = (vals i).map some)
    (h : (exec v_IATBatch_isBatchEntryCount_err c []).2 = .ret (.err none)) :
    e = ((List.range n).map (fun i => (vals i).sum)).sum := by
  have hloop := forEach_sums (v := "entry") (coll := .fld "Entries") (fun a => [("entryCount", .int a)])
    (fun i => (vals i).sum) 0 hE
    (fun i hi a => step_of_exec [_] (items_exec c _ [] iatItems (vals i) a (hv i hi)) rfl)
  rw [iat_isBatchEntryCount_shape, exec_seqs_cons_next (exec_bind_int ..), exec_seqs_cons_next hloop] at h
  by_cases heq : ((List.range n).map (fun i => (vals i).sum)).sum = e
  · exact heq.symm
  · simp [Ach.Props.AcceptedCount.countGuard, seqs, exec, eval, hC, he, lookup, cmpVals, hflag, heq, scopeExit] at h

theorem iat_isSequenceAscending_shape :
    v_IATBatch_isSequenceAscending =
      seqs [(.bind "lastSeq" (.str "-1")), (.forEach "entry" (.fld "Entries") ascBody), (.ret .nil)] := rfl

/-- C03, IAT — `IATBatch.isSequenceAscending()` returns nil, with `CustomTraceNumbers` off, only if the trace numbers
strictly ascend (Go string order), the first above "-1" -/
theorem iat_isSequenceAscending_accepts (c : Ctx) (p : String) (n : Nat) (tr : Nat → Str)
    (hflag : hasFlag c "recv" "CustomTraceNumbers" = false)
    (hE : lookup c.fields (joinPath c.recv "Entries") = .lst p n)
    (htr : ∀ i, i < n → lookup c.fields (joinPath (elemPath p i) "TraceNumber") = .str (tr i))
    (h : (exec v_IATBatch_isSequenceAscending c []).2 = .ret (.err none)) :
    ascending tr ['-', '1'] (List.range n) := by
  have hbind : exec (.bind "lastSeq" (.str "-1")) c [] = ([("lastSeq", .str ['-', '1'])], .next) := rfl
  rw [iat_isSequenceAscending_shape, exec_seqs_cons_next hbind] at h
  have hloop := accept_seq_left (by decide) h
  simp only [exec, eval, hE] at hloop
  exact asc_iter c hflag p n tr [] htr (List.range n) (fun k hk => List.mem_range.mp hk) _ hloop

/-- C03, IAT batches — for every IAT batch value, of any size: if `IATBatch.verify()` (translated from the source on this
run) returns nil, the control's entry/addenda count is the number of entry and addenda records (unless
`UnequalAddendaCounts`) and the trace numbers strictly ascend (unless `CustomTraceNumbers`) -/
theorem accepted_iat_batch_count_and_order (c : Ctx) (cp p : String) (n : Nat) (vals : Nat → List Int) (tr : Nat → Str) (e : Int)
    (hC : lookup c.fields (joinPath c.recv "Control") = .ref cp)
    (he : lookup c.fields (joinPath cp "EntryAddendaCount") = .int e)
    (hE : lookup c.fields (joinPath c.recv "Entries") = .lst p n)
    (hv : ∀ i, i < n → iatItems.map (itemVal c (elemPath p i)) = (vals i).map some)
    (htr : ∀ i, i < n → lookup c.fields (joinPath (elemPath p i) "TraceNumber") = .str (tr i))
    (ha : run c v_IATBatch_verify = .accept) :
    (hasFlag c "recv" "UnequalAddendaCounts" = false → e = ((List.range n).map (fun i => (vals i).sum)).sum) ∧
    (hasFlag c "recv" "CustomTraceNumbers" = false → ascending tr ['-', '1'] (List.range n)) := by
  obtain ⟨_, hB⟩ := run_passes_nth Ach.Props.AcceptedIAT.iat_verify_statements ha (k := 7)
    (q := .ite (.not (.flag "recv" "CustomTraceNumbers")) (.check none v_IATBatch_isSequenceAscending) .skip) rfl (by decide)
  exact ⟨fun hf => iat_isBatchEntryCount_accepts c cp p n vals e hf hC he hE hv
      (run_passes_check Ach.Props.AcceptedIAT.iat_verify_statements.2 ha (k := 6) rfl),
    fun hf => iat_isSequenceAscending_accepts c p n tr hf hE htr (check_passes c _ none _ (unless_flag_next hf hB))⟩

end Ach.Props.AcceptedIATCount
