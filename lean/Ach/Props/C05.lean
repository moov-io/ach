import Ach.Proofs.Create
import Ach.Generated.Topics
import Ach.Model.CreateDriver
import Ach.Proofs.FileCreate
/-!
# C05 — Create tabulates a valid, stable file; offsets balance every batch  (batch and file level)

Model: `Ach.Model.Create` (`build`, `upsertOffsets` with the removal loop exactly as written, parameterised by the
slice expression found in the source).  Tie: the `create` correspondence stream runs the real `(*Batch).build`
(through the `verif` hook) and the model on random batches × offsets × 1–3 repetitions and compares entries, trace and
addenda sequence numbers and the control record; the slice expression is `removeStride`, computed from the generated `indexSites`.

* `upsert_slice_is_i_plus_1` (F) — the removal loop drops exactly the element it found.
* `build_controls` — count, totals and hash of the control equal the values recomputed from the entries.
* `offset_balanced` — with an Offset configured, debits = credits, through at most one OFFSET entry per direction.
* `build_idempotent`, `build_repeated` — any number of further `build` calls changes nothing, for a batch with a
  non-OFFSET entry and under `hoff` (both explained at `Ach.build_idempotent`).
* `upsert_counterexample_*` — with the historical `Entries[i+i:]` the model panics or hangs (it can also lose an offset
  entry silently; no theorem states that case).  This is the defect fixed in /repo commit f0940535.

`build_controls`, `offset_balanced`, `build_idempotent` and `build_repeated` assume `OffsetsWellFormed`: an entry named
OFFSET (in any case) is one the library could have written, with one of the four offset codes and no addenda.  The loop
subtracts 1 from the count and the amount from one total for every entry of that name, so another entry of that name
can leave the control wrong (the library gives count 3 for 2 records when such an entry carries an Addenda05).

File level — model `Ach.Model.FileCreate` (the numbering loop over standard then IAT batches with one running counter,
the file control summed from the batch controls), tied by the `filecreate` correspondence stream (real `File.Create` on
files whose batch numbers and control figures were set to arbitrary values):

* `file_create_validates` — the file `File.Create` leaves passes `File.ValidateWith` whenever its header validates, its
  batches validate (Create only renumbers them) and the numbering the loop leaves is ascending;
* `file_create_fresh_ascending` — which it always is for batches numbered ≤ 1 (fresh from the constructors): 1, 2, 3, …;
* `file_create_control` — the file control equals the figures recomputed from the batch controls, for every input;
* `file_create_idempotent` — `Create` again changes nothing (numbers and control).
A file with pre-set numbers > 1 can come out non-ascending (`[5, 0] ↦ [5, 2]`, known finding, `Props.C11`).

Not modelled: `createFileADV` and the SEC-specific `Create` wrappers — covered by the oracle only.
-/
namespace Ach.Props.C05
open Ach.Gen

/-- F: `upsertOffsets` removes an OFFSET entry with `append(b.Entries[:i], b.Entries[i+1:]...)` -/
theorem upsert_slice_is_i_plus_1 : removeStride = some 1 := by decide +kernel

theorem build_controls (b b' : CBatch) (hw : OffsetsWellFormed b.entries) (h : build 1 b = .ok b') :
    b'.control.entryAddendaCount = cCount b'.entries ∧ b'.control.totalDebit = cDebit b'.entries ∧
    b'.control.totalCredit = cCredit b'.entries ∧ b'.control.entryHash = cHash b'.entries := by
  obtain ⟨⟨a, b1, c⟩, d, _⟩ := Ach.build_controls b b' hw h
  exact ⟨a, b1, c, d⟩

/-- **offset_balanced**: with an Offset configured every built batch is balanced -/
theorem offset_balanced (b b' : CBatch) (hw : OffsetsWellFormed b.entries) (h : build 1 b = .ok b')
    (ho : b.offset ≠ none) : b'.control.totalDebit = b'.control.totalCredit :=
  (Ach.build_controls b b' hw h).2.2 ho

/-- at most one OFFSET entry per direction among `newOffsets`, which is what `upsertOffsets` appends
(`Ach.upsert_closed_form`) -/
theorem offsets_at_most_one_each (off : COffset) (k : OffsetKind) (last D C : Int) :
    ((newOffsets off k last D C).filter (fun e => e.code = dcodeOf k)).length ≤ 1 ∧
    ((newOffsets off k last D C).filter (fun e => e.code = ccodeOf k)).length ≤ 1 :=
  newOffsets_at_most_one_each off k last D C

theorem build_idempotent (b b' : CBatch) (hw : OffsetsWellFormed b.entries) (h : build 1 b = .ok b')
    (hreg : ∃ e ∈ b.entries, e.isOffset = false)
    (hoff : ∀ e ∈ b'.entries, e.isOffset = true → ∀ s, buildEntry b' s e = some e) :
    build 1 b' = .ok b' := Ach.build_idempotent b b' hw h hreg hoff

def iterBuild : Nat → CBatch → Except BuildErr CBatch
  | 0, b => .ok b
  | n + 1, b => match build 1 b with
    | .ok b' => iterBuild n b'
    | .error e => .error e

/-- **build_repeated**: however many times `build` is repeated after the first, the batch stays the same -/
theorem build_repeated (b b' : CBatch) (hw : OffsetsWellFormed b.entries) (h : build 1 b = .ok b')
    (hreg : ∃ e ∈ b.entries, e.isOffset = false)
    (hoff : ∀ e ∈ b'.entries, e.isOffset = true → ∀ s, buildEntry b' s e = some e) :
    ∀ n, iterBuild n b' = .ok b' := by
  intro n
  induction n with
  | zero => rfl
  | succ n ih => simp only [iterBuild, Ach.build_idempotent b b' hw h hreg hoff, ih]

theorem upsert_idempotent (b b' : CBatch) (off : COffset) (k : OffsetKind)
    (ho : b.offset = some off) (hr : off.routingOK = true) (hk : off.kind = some k)
    (hw : OffsetsWellFormed b.entries) (ht : Tallied b.entries b.control)
    (h : upsertOffsets 1 b = .ok b') : upsertOffsets 1 b' = .ok b' := by
  rw [upsert_closed_form b off k ho hr hk hw ht] at h
  cases h
  exact Ach.upsert_idempotent b off k ho hr hk

def demoEntry (code amount : Int) (trace : String) (isOffset : Bool) : CEntry :=
  ⟨code, amount, "23138010".toList, trace.toList, isOffset, [], 0⟩

def demoOffset : COffset := ⟨"23138010".toList, true, some .checking⟩

def demoBatch (es : List CEntry) : CBatch :=
  ⟨true, 200, "12104288".toList, es, ⟨200, 0, 0, 0, 0⟩, some demoOffset, true⟩

def failsWith : Except BuildErr CBatch → Fault → Bool
  | .error (.fault f), g => f == g
  | _, _ => false

/-- three entries + offsets, second build with `Entries[i+i:]`: slice bounds out of range -/
theorem upsert_counterexample_panic :
    failsWith (CreateDriver.repeatBuild 0 2 (demoBatch [demoEntry 22 100 "" false, demoEntry 27 50 "" false, demoEntry 22 7 "" false]))
      .panic = true := by decide +kernel

/-- an OFFSET entry at index 0 with `Entries[i+i:]`: the loop never advances -/
theorem upsert_counterexample_hang :
    failsWith (build 0 (demoBatch [demoEntry 27 100 "" true, demoEntry 22 100 "" false])) .hang = true := by decide +kernel

/-- and with `Entries[i+1:]` the same inputs build, stay balanced, and are stable -/
example : (CreateDriver.repeatBuild 1 3 (demoBatch [demoEntry 22 100 "" false, demoEntry 27 50 "" false, demoEntry 22 7 "" false])).toOption.map
    (fun b => (b.entries.length, b.control.totalDebit, b.control.totalCredit)) = some (5, 157, 157) := by decide +kernel

/-- non-vacuity of `build_idempotent`'s hypotheses on that batch (`hoff` at sequence number 0) -/
example : ∃ b', build 1 (demoBatch [demoEntry 22 100 "" false, demoEntry 27 50 "" false]) = .ok b' ∧
    (∀ e ∈ b'.entries, e.isOffset = true → buildEntry b' 0 e = some e) := by
  refine ⟨_, rfl, ?_⟩
  decide +kernel

open Ach.FileCreate in
theorem file_create_validates (o : Opts) (f : VFile) (hdrs : List Int) (hlen : hdrs.length = f.iatControls.length)
    (hh : o.allowMissingFileHeader = true ∨ f.headerOK = true)
    (hb : ∀ b ∈ f.batches, batchValidate o b = true)
    (hasc : o.allowUnorderedBatchNumbers = true ∨ o.customTraceNumbers = true ∨ batchNumbersAscend 0 (renumber 1 f.batches) = true) :
    fileValidate o (fileCreate f hdrs true) = true := fileCreate_validates o f hdrs hh hb hasc

open Ach.FileCreate in
theorem file_create_fresh_ascending (bs : List VBatch) (h : ∀ b ∈ bs, b.header.batchNumber ≤ 1) :
    batchNumbersAscend 0 (renumber 1 bs) = true := renumber_fresh_ascending bs 1 0 (by omega) h

open Ach.FileCreate in
theorem file_create_control (f : VFile) (hdrs : List Int) (ok : Bool) :
    let g := fileCreate f hdrs ok
    g.control.batchCount = (allControls g).length ∧
    g.control.entryAddendaCount = sumBy (·.entryAddendaCount) (allControls g) ∧
    g.control.entryHash = leastSignificantDigits (sumBy (·.entryHash) (allControls g)) 10 ∧
    g.control.totalDebit = sumBy (·.totalDebit) (allControls g) ∧
    g.control.totalCredit = sumBy (·.totalCredit) (allControls g) := by
  simp [fileCreate, allControls, sumControls]

open Ach.FileCreate in
theorem file_create_idempotent (f : VFile) (hdrs : List Int) (hlen : hdrs.length = f.iatControls.length) (ok : Bool) :
    fileCreate (fileCreate f hdrs ok) (newNumbers (1 + f.batches.length) hdrs) ok = fileCreate f hdrs ok :=
  fileCreate_idempotent f hdrs ok

def demoVBatch (n eac hash d c : Int) : VBatch := ⟨⟨200, [], [], n⟩, [], ⟨200, eac, hash, d, c, [], [], n⟩, true⟩

/-- non-vacuity: three batches numbered 0, 0, 7 come out 1, 2, 7 with the control summed (hash cut to 10 digits) -/
example :
    let g := Ach.FileCreate.fileCreate ⟨true, [demoVBatch 0 3 1234 100 50, demoVBatch 0 2 99 0 10, demoVBatch 7 5 9999999999 7 7], [], ⟨0, 0, 0, 0, 0⟩, true⟩ [] true
    (g.batches.map (·.header.batchNumber), g.batches.map (·.control.batchNumber), g.control) =
      ([1, 2, 7], [1, 2, 7], ⟨3, 10, 1332, 107, 67⟩) := by decide +kernel

/-- F: the functions `Ach.Model.Create` mirrors by hand have the bodies the model was written against -/
theorem create_functions_unchanged : hashes_create = [("File.Create", 206460734504824362), ("File.createFileADV", 7914545407192902951), ("Batch.build", 9945901091926620191), ("Batch.upsertOffsets", 13389808617865457086), ("createOffsetEntryDetail", 819736143008900615), ("lastTraceNumber", 11642321305391312867), ("EntryDetail.SetTraceNumber", 556215407367731719), ("IATBatch.build", 9896163527177086157), ("IATBatch.Create", 16606746237067222751)] := rfl

end Ach.Props.C05
