import Ach.Proofs.Pipeline
import Ach.Generated.Pipeline
/-!
# C10 — MergeDir equals MergeFiles over the directory, under every schedule

Model: `Ach.Model.Pipeline` (the walk as a pure function over a tree; the goroutines of `MergeDir` as a labelled
transition system whose runs are the schedules).  All theorems hold for every worker count `n ≥ 1`, every list of
walked paths and every run (induction over `Reach`).

* `walk_complete` — the walk sends every file of the tree exactly once (all levels when sub-directories are
  enabled, the top level otherwise) when the source continues after a sub-directory, which it does
  (`pipeline_params_from_source`, `source_walk_complete`).  `walk_incomplete_counterexample` is the theorem about the
  old behaviour `return walkDir(sub)` (finding D3, fixed in /repo by a7642603).
* `pipeline_invariant`, `pipeline_delivers`, `pipeline_error`, `pipeline_error_iff`, `pipeline_terminates` — hold for
  every parameter value.
* `pipeline_no_deadlock` needs the walker's send to be abandonable on an errgroup error; the source has that
  (`pipeline_params_from_source`, `source_no_deadlock`).  For the old parameter values (plain sends, `errgroup.Group`
  without context) `pipeline_deadlock_reachable` exhibits the stuck run (N = 1, paths = [unparseable, good]; finding
  D4, fixed in /repo by a36b4c2a) and `pipeline_no_deadlock_if_all_parse` is what held; `pipeline_deadlock_dichotomy`
  shows that this condition (`walkerAbortable`) is exact.
* `mergedir_equals_mergefiles` — with order-independence of merging (a hypothesis here; C08's
  `merge_order_independent` states it for the merge model, the two are not connected in Lean) the merged content of
  every error-free finished run equals the merge of the accepted parseable files in walk order.
* `pipeline_params_from_source` — the parameter values computed from the generated facts, `by decide +kernel`; an
  edit of merge.go that takes a send out of its `select`, drops the `Done()` case, drops `errgroup.WithContext` or
  changes the sub-directory handling breaks it and with it `source_walk_complete` / `source_no_deadlock`.

## The `sync.Once` (merge.go:371-374) — schedule-dependent, reported as a finding

`seed` records which file's `Header` / `GetValidation()` was copied into `sorted` by `setup.Do`.  Proved:
`seed_before_merge` (the seeding happens before any parsed file can reach the merger, so `pickOutFile` never compares
against the zero header), `seed_is_merged` (in an error-free finished run the seeding file is one of the merged
files, and there is none iff nothing was merged), and `seed_schedule_dependent`: with two workers and two good files
there are two finished runs with the **same** merge order `[0,1]` whose seeds are `0` and `1`.
Consequence in merge.go (by reading `outFile.add`, `pickOutFile`, `convertToFiles`; not part of the model): the
output file for the seeding file's origin/destination pair carries `sorted.header` = the *seeding* file's whole
FileHeader, every other output file the header of the *first merged* file of its pair.  The key fields
(ImmediateOrigin, ImmediateDestination) and the merged ValidateOpts (`merge` is a field-wise OR over the pair's files)
do not depend on that choice; the remaining header fields (FileCreationDate/Time, FileIDModifier, the two names,
ReferenceCode), the order of the output files, the batch order and batch numbers do.  Scenario: two accepted files
with equal origin/destination and FileIDModifier "A" / "B", `ParseWorkers ≥ 2`: the merged file's FileIDModifier is
"A" or "B" depending on which worker reaches `setup.Do` first; and the run of `seed_schedule_dependent` yields header
of file 1 with file 0's batches first, which `MergeFiles` produces for no input order.  Hence equality with
`MergeFiles` can only be claimed for the content the property names (multiset of entries, grouping by
origin/destination), which is what `mergeOrderIndependent` abstracts.

## Trusted / modelled, not verified

* Go channel semantics: an unbuffered send completes together with a receive (rendezvous step); `select` picks any
  ready case; `context` cancellation is observed by `Done()` any time after `cancel`; `errgroup.Group.Wait` returns
  the first non-nil error after all goroutines returned, and `errgroup.WithContext` cancels its context at that
  first error; `sync.WaitGroup`; `sync.Once.Do` runs the first caller's function and no `Do` returns before it
  completed.  The two helper goroutines (`pathsGroup.Wait(); pathsCancelFunc()` and the parsing one) are folded into
  `walkerFinish` / `mergerFinish`.
* `walkerAbort k`: in the source an abandoned send makes that `walkDir` invocation return nil, i.e. the rest of the
  directory being listed is skipped and the parent's loop goes on; the model allows any number `k` of skipped paths
  (a superset; the step's enabling condition does not depend on `k`, so progress transfers).
* Reading and parsing a file (`readValidateOptsFromFile`, `readFile`) is one local step with a fixed outcome per
  path (`parseable`); `opts.AcceptFile` is a function of the path (`accepted`).
* `sorted.add` does not fail on a parsed file (its error returns need a nil BatchHeader / nil outFile).  If it did,
  the merger would return early and a worker blocked on `mergableFiles <- file` could only leave through the
  `workerAbort` step — that is the only place where `workerSendCancellable` matters; it is not needed for
  `pipeline_no_deadlock` in this model.
* `ReadDir` succeeds.  Up to 561fafea in /repo `walkDir` fell back to `os.ReadDir` for a directory the fs.FS lists as
  empty (the model names these directories, `osFallbackDirs`, `os_fallback_witness`, and the driver prints them; not
  modelled further): with `opts.FS` set, an empty sub-directory made MergeDir fail with "os.readdir sub failed: open
  sub: no such file or directory" although every file is fine, and an empty root directory made it list the process's
  working directory on the real file system (probe: a `LICENSE` file there gave "reading LICENSE failed").  Since that
  fix `os.ReadDir` is called only when no fs.FS is given.  `walk_complete` is about the files of the tree and is not
  affected.
* Which context a `Done()` case belongs to is not in the facts: `selectsDone` on the two sends is read as "the
  errgroup context when `mergeDirUsesGroupCtx`".
* Not exhibited: the Go memory model / data-race freedom (covered by `-race` runs only).  At the level of the
  model the only shared data written by workers is the `sync.Once` seed, ordered before the merger's reads by
  `seed_before_merge`.
-/
namespace Ach.Props.C10
open Ach.Pipeline Ach.Gen

def sendsOn (fs : List SendFact) (fn ch : String) : List SendFact := fs.filter (fun f => f.fn == fn && f.ch == ch)

/-- there is such a channel operation and every one sits in a `select` that also has a `Done()` case -/
def allSelectDone (fs : List SendFact) (fn ch : String) : Bool :=
  !(sendsOn fs fn ch).isEmpty && (sendsOn fs fn ch).all (fun f => f.inSelect && f.selectsDone)

def paramsOf (sends : List SendFact) (groupCtx : Bool) : Params :=
  ⟨allSelectDone sends "walkDir" "discoveredPaths", allSelectDone sends "queueFileForMerging" "mergableFiles", groupCtx⟩

/-- the model's `workerExit` / `mergerFinish`: both receives sit in a `select` with a `Done()` case -/
def receiveSelectsOk (sel : List SendFact) : Bool :=
  allSelectDone sel "queueFileForMerging" "discoveredPaths" && allSelectDone sel "MergeDir" "mergableFiles"

def sourceParams : Params := paramsOf pipeSends mergeDirUsesGroupCtx
def sourceBeh : SubdirBeh := subdirBehOf walkSubdir

/-- plain channel sends and `var g errgroup.Group` (merge.go before a36b4c2a) -/
def oldParams : Params := ⟨false, false, false⟩
/-- both sends in a `select` with `Done()` of the `errgroup.WithContext` context -/
def fixedParams : Params := ⟨true, true, true⟩

/-- the fact tables as they were extracted before the two fixes map to `oldParams` / `.returnCall`
(`paramsOf` does discriminate) -/
theorem old_facts_give_old_params :
    paramsOf [⟨"walkDir", "discoveredPaths", false, false⟩, ⟨"queueFileForMerging", "mergableFiles", false, false⟩] false
      = oldParams ∧ subdirBehOf "return-recursive-call" = .returnCall := by decide +kernel

/-- when the source continues after a sub-directory, the walk sends exactly the files of the tree, each once (it *is*
the depth-first flattening, a fortiori a permutation of it); with sub-directories disabled it sends exactly the
top-level files, whatever the sub-directory behaviour -/
theorem walk_complete (dir : String) (items : List Node) :
    walkItems true .continue dir items = allFiles dir items ∧
    (walkItems true .continue dir items).Perm (allFiles dir items) ∧
    ∀ beh, walkItems false beh dir items = topFiles dir items :=
  ⟨walk_continue_eq_allFiles dir items, by rw [walk_continue_eq_allFiles], fun beh => walk_nosub_eq_topFiles beh dir items⟩

def lossyTree : List Node :=
  [.file "a.ach" .accept true, .dir "d" [.file "c.ach" .accept true], .file "e.ach" .accept true]

/-- finding D3, for the old behaviour `.returnCall`: with `return walkDir(sub)` the file after the sub-directory is in
the tree but is never sent -/
theorem walk_incomplete_counterexample :
    (⟨"e.ach", .accept, true⟩ : Sent) ∈ allFiles "." lossyTree ∧
    walkItems true .returnCall "." lossyTree = [⟨"a.ach", .accept, true⟩, ⟨"d/c.ach", .accept, true⟩] ∧
    (⟨"e.ach", .accept, true⟩ : Sent) ∉ walkItems true .returnCall "." lossyTree := by
  simp [lossyTree, walkItems, allFiles, join]

/-- the directories on which `walkDir` read the operating system instead of the fs.FS up to 561fafea: an empty
sub-directory, an empty root -/
theorem os_fallback_witness :
    osFallbackDirs true .continue "." [.file "a.ach" .accept true, .dir "sub" []] = ["sub"] ∧
    osFallbackDirs true .continue "." [] = ["."] := by
  simp [osFallbackDirs, osFallbackItems, join]

/-- in every reachable state — the merger has finished only if all workers returned; a worker returned cleanly only if
the walker is done; the walker is done only when nothing is left; everything sent or still to send is a walked path;
and, while no error occurred, sent ++ still-to-send = walked paths (nothing skipped) and merged ⊎ in-flight = the good
files among the paths sent so far -/
theorem pipeline_invariant {P : Params} {n : Nat} {paths : List PFile} {s : St} (h : Reach P n paths s) :
    (s.mergerDone = true → ∀ w ∈ s.workers, w.isExited = true) ∧
    (W.exited .ok ∈ s.workers → s.walkerDone = true) ∧
    (s.walkerDone = true → s.remaining = []) ∧
    s.workers.length = n ∧
    (∀ p, p ∈ s.sent ∨ p ∈ s.remaining → p ∈ paths) ∧
    (s.err = false → s.sent ++ s.remaining = paths) ∧
    (s.err = false → (s.acc ++ s.workers.flatMap inflight).Perm (goodIds s.sent)) := by
  have hi := inv_reach h
  exact ⟨fun hm => allExited_iff.1 (hi.c.merger hm), hi.c.exitOk, hi.c.walked, hi.c.len, hi.c.sub, hi.c.split,
    hi.b.perm⟩

/-- every finished run without error has merged exactly the multiset of accepted parseable files among the walked
paths -/
theorem pipeline_delivers {P : Params} {n : Nat} {paths : List PFile} {s : St} (h : Reach P n paths s)
    (ht : terminal s = true) (he : s.err = false) : s.acc.Perm (goodIds paths) :=
  delivers (inv_reach h) ht he

/-- progress whenever an error lets the walker abandon its send (lemma behind the no-deadlock theorems and the
dichotomy) -/
theorem pipeline_progress {P : Params} {n : Nat} {paths : List PFile} {s : St} (hn : 1 ≤ n) (h : Reach P n paths s)
    (hnt : terminal s = false) (hab : s.err = true → P.walkerAbortable = true) : ∃ l t, Step P s l t :=
  progress hn (inv_reach h).c hnt hab

/-- with both sends cancellable by the errgroup context, every reachable non-terminal state has a successor.  (Only
`walkerSendCancellable ∧ groupCtx` is used, see `pipeline_progress`.) -/
theorem pipeline_no_deadlock {P : Params} {n : Nat} {paths : List PFile} {s : St} (hn : 1 ≤ n)
    (hw : P.walkerSendCancellable = true) (_hs : P.workerSendCancellable = true) (hg : P.groupCtx = true)
    (h : Reach P n paths s) (hnt : terminal s = false) : ∃ l t, Step P s l t :=
  pipeline_progress hn h hnt (fun _ => by simp [Params.walkerAbortable, hw, hg])

/-- for any parameters (`oldParams` included), if no walked path is an accepted unparseable file then no worker ever
returns an error and every reachable non-terminal state has a successor -/
theorem pipeline_no_deadlock_if_all_parse {P : Params} {n : Nat} {paths : List PFile} {s : St} (hn : 1 ≤ n)
    (hall : ∀ p ∈ paths, p.bad = false) (h : Reach P n paths s) (hnt : terminal s = false) :
    s.err = false ∧ ∃ l t, Step P s l t := by
  have he : s.err = false := Bool.eq_false_iff.2 fun he => by
    obtain ⟨p, hp, hb⟩ := (inv_reach h).c.bad_of_err he
    cases hb.symm.trans (hall p hp)
  exact ⟨he, pipeline_progress hn h hnt fun h' => by cases he.symm.trans h'⟩

/-- a natural-number measure strictly decreases on every step; it starts at `3·|paths| + n + 2` (`measure_init`), which
therefore bounds the length of every run (the bound is not stated as a theorem) -/
theorem pipeline_terminates {P : Params} {s t : St} {l : Label} (h : Step P s l t) : runMeasure t < runMeasure s :=
  measure_decreases h

theorem measure_init (n : Nat) (paths : List PFile) : runMeasure (init n paths) = 3 * paths.length + n + 2 := by
  simp [runMeasure, init, W.rank, List.map_replicate]

/-- once a worker has taken an unparseable accepted file and read it, every later state — in particular the final
one — has an error as its result -/
theorem pipeline_error {P : Params} {s u : St} {i : Nat} {p : PFile} (hg : s.workers[i]? = some (.got p))
    (hb : p.bad = true) (hu : Steps P (parseSt s i p) u) :
    Step P s (.parse i) (parseSt s i p) ∧ result u = none :=
  ⟨Step.parse s i p hg, result_eq_none.2 (err_monotone hu (parseSt_err.2 (Or.inr hb)))⟩

/-- the result of a finished run is an error exactly when some walked path is an accepted file that cannot be
parsed ("returning an error when an accepted file cannot be parsed") -/
theorem pipeline_error_iff {P : Params} {n : Nat} {paths : List PFile} {s : St} (h : Reach P n paths s)
    (ht : terminal s = true) : result s = none ↔ ∃ p ∈ paths, p.bad = true :=
  result_eq_none.trans (terminal_err_iff (inv_reach h).c ht)

def badGood : List PFile := [⟨0, true, false⟩, ⟨1, true, true⟩]

def stuckSt : St := ⟨[⟨1, true, true⟩], [⟨0, true, false⟩], false, [.exited .err], [], true, none, true⟩

/-- finding D4 for any parameters under which the walker cannot abandon its send: one worker, paths
[unparseable, good]; after `send 0, parse 0, mergerFinish` the walker is blocked on its send forever -/
theorem deadlock_of_not_abortable (P : Params) (h : P.walkerAbortable = false) :
    Reach P 1 badGood stuckSt ∧ terminal stuckSt = false ∧ ¬ ∃ l t, Step P stuckSt l t :=
  ⟨reach_of_runLabels [.send 0, .parse 0, .mergerFinish] Reach.init rfl, by decide,
    stuck_of_walker_blocked h rfl rfl (List.cons_ne_nil _ _)⟩

/-- counterexample to no-deadlock for the old parameter values -/
theorem pipeline_deadlock_reachable :
    Reach oldParams 1 badGood stuckSt ∧ terminal stuckSt = false ∧ ¬ ∃ l t, Step oldParams stuckSt l t :=
  deadlock_of_not_abortable oldParams (by decide)

/-- of the hypotheses of `pipeline_no_deadlock` the part that is used, `walkerAbortable`, is exact -/
theorem pipeline_deadlock_dichotomy (P : Params) :
    (P.walkerAbortable = true ∧ ∀ n paths s, 1 ≤ n → Reach P n paths s → terminal s = false → ∃ l t, Step P s l t) ∨
    (P.walkerAbortable = false ∧ ∃ n paths s, 1 ≤ n ∧ Reach P n paths s ∧ terminal s = false ∧ ¬ ∃ l t, Step P s l t) := by
  cases h : P.walkerAbortable with
  | true => exact Or.inl ⟨rfl, fun n paths s hn hr hnt => pipeline_progress hn hr hnt (fun _ => h)⟩
  | false =>
    obtain ⟨h1, h2, h3⟩ := deadlock_of_not_abortable P h
    exact Or.inr ⟨rfl, 1, badGood, stuckSt, Nat.le_refl 1, h1, h2, h3⟩

/-- let `merge` be the merged content as a function of the list of files handed to `sorted.add`, and assume it does not
depend on their order (`mergeOrderIndependent`, a hypothesis; cf. C08).  Then every finished error-free run of the pipeline
over the walked tree, under every schedule and worker count, yields the content of merging the accepted parseable
files of the tree in walk order — all files when the walk continues after sub-directories and they are enabled, the
top-level ones when they are disabled. -/
theorem mergedir_equals_mergefiles {R : Type} (merge : List Nat → R)
    (mergeOrderIndependent : ∀ a b : List Nat, a.Perm b → merge a = merge b)
    {P : Params} {n : Nat} (subdirs : Bool) (items : List Node) {s : St}
    (h : Reach P n (pathsOfTree subdirs .continue items) s) (ht : terminal s = true) (he : s.err = false) :
    merge s.acc = merge (goodIds (numberFrom 0 (if subdirs then allFiles "." items else topFiles "." items))) := by
  have := mergeOrderIndependent _ _ (pipeline_delivers h ht he)
  cases subdirs
  · simpa [pathsOfTree, walk_nosub_eq_topFiles] using this
  · simpa [pathsOfTree, walk_continue_eq_allFiles] using this

/-- two finished runs over the same paths (any two schedules, any two worker counts) agree: both fail or both
succeed with the same content -/
theorem mergedir_schedule_independent {R : Type} (merge : List Nat → R)
    (mergeOrderIndependent : ∀ a b : List Nat, a.Perm b → merge a = merge b)
    {P : Params} {n m : Nat} {paths : List PFile} {s t : St} (hs : Reach P n paths s) (ht : Reach P m paths t)
    (hts : terminal s = true) (htt : terminal t = true) : (result s).map merge = (result t).map merge := by
  -- both runs fail or neither does: each fails exactly when some path is an unparseable accepted file
  have hst : s.err = t.err :=
    Bool.eq_iff_iff.2 ((terminal_err_iff (inv_reach hs).c hts).trans (terminal_err_iff (inv_reach ht).c htt).symm)
  cases het : t.err with
  | true => simp [result, hst, het]
  | false =>
    have hes := hst.trans het
    have := mergeOrderIndependent _ _ ((pipeline_delivers hs hts hes).trans (pipeline_delivers ht htt het).symm)
    simp [result, hes, het, this]

/-- the header is seeded before any parsed file is held by a worker or has reached the merger -/
theorem seed_before_merge {P : Params} {n : Nat} {paths : List PFile} {s : St} (h : Reach P n paths s)
    (hx : s.acc ≠ [] ∨ ∃ f, W.holding f ∈ s.workers) : s.seed.isSome = true := by
  cases hq : s.seed with
  | some f => rfl
  | none =>
    obtain ⟨h1, h2⟩ := (inv_reach h).s.seedNone hq
    rcases hx with hx | ⟨f, hf⟩
    · exact absurd h1 hx
    · exact absurd hf (h2 f)

/-- in a finished error-free run the seeding file is among the merged ones; there is none iff nothing was merged -/
theorem seed_is_merged {P : Params} {n : Nat} {paths : List PFile} {s : St} (h : Reach P n paths s)
    (ht : terminal s = true) (he : s.err = false) :
    (∀ f, s.seed = some f → f ∈ s.acc) ∧ (s.seed = none ↔ s.acc = []) := by
  have hi := (inv_reach h).s
  have hin (f : Nat) (hf : s.seed = some f) : f ∈ s.acc :=
    (hi.seedIn he f hf).resolve_right fun hm => by cases exited_of_terminal ht hm
  refine ⟨hin, fun hq => (hi.seedNone hq).1, fun ha => ?_⟩
  cases hq : s.seed with
  | none => rfl
  | some f => cases ha ▸ hin f hq

def twoGood : List PFile := [⟨0, true, true⟩, ⟨1, true, true⟩]
def endSeed (k : Nat) : St :=
  ⟨[], twoGood, true, [.exited .ok, .exited .ok], [0, 1], true, some k, false⟩

/-- two workers, two good files, under the extracted parameters (`fixedParams`; the same runs exist under all
parameters): two finished error-free runs with the same merge order `[0,1]`, seeded by file 0 and by file 1 -/
theorem seed_schedule_dependent :
    Reach fixedParams 2 twoGood (endSeed 0) ∧ Reach fixedParams 2 twoGood (endSeed 1) ∧
    terminal (endSeed 0) = true ∧ terminal (endSeed 1) = true ∧ (endSeed 0).acc = (endSeed 1).acc :=
  ⟨reach_of_runLabels [.send 0, .send 1, .parse 0, .parse 1, .deliver 0, .deliver 1, .walkerFinish, .workerExit 0,
      .workerExit 1, .mergerFinish] Reach.init (by decide +kernel),
   reach_of_runLabels [.send 0, .send 1, .parse 1, .parse 0, .deliver 0, .deliver 1, .walkerFinish, .workerExit 0,
      .workerExit 1, .mergerFinish] Reach.init (by decide +kernel),
   by decide, by decide, rfl⟩

/-- the parameter values as functions of the generated facts evaluate to: both sends cancellable by the errgroup
context, walk continues after a sub-directory; and the two receive `select`s have their `Done()` case (so the model's
`workerExit` and `mergerFinish` steps exist) -/
theorem pipeline_params_from_source :
    sourceParams = paramsOf pipeSends mergeDirUsesGroupCtx ∧ sourceBeh = subdirBehOf walkSubdir ∧
    sourceParams = fixedParams ∧ sourceBeh = .continue ∧ receiveSelectsOk pipeSelects = true := by
  decide +kernel

/-- `walk_complete` applies to the source -/
theorem source_walk_complete (dir : String) (items : List Node) :
    walkItems true sourceBeh dir items = allFiles dir items ∧ walkItems false sourceBeh dir items = topFiles dir items := by
  rw [pipeline_params_from_source.2.2.2.1]
  exact ⟨(walk_complete dir items).1, (walk_complete dir items).2.2 _⟩

/-- `pipeline_no_deadlock` applies to the source, unconditionally -/
theorem source_no_deadlock {n : Nat} {paths : List PFile} {s : St} (hn : 1 ≤ n) (h : Reach sourceParams n paths s)
    (hnt : terminal s = false) : ∃ l t, Step sourceParams s l t := by
  have hp := pipeline_params_from_source.2.2.1
  exact pipeline_no_deadlock hn (by rw [hp]; rfl) (by rw [hp]; rfl) (by rw [hp]; rfl) h hnt

/-- F: the functions the model was written against (update together with the model when they change) -/
theorem pipeline_functions_unchanged :
    pipeHashes.filter (fun h => ["MergeDir", "walkDir", "queueFileForMerging", "readFile"].contains h.1) =
      [("MergeDir", 8987153640830505350), ("walkDir", 15410378209412867284),
       ("queueFileForMerging", 15133382288849418941), ("readFile", 5781826654915650618)] := by decide +kernel

/-- a reachable, non-terminal, error-free state with a file in flight and one merged (two workers, three paths:
good, skipped, good) — the hypotheses of `pipeline_invariant` / `pipeline_no_deadlock_if_all_parse` are satisfiable -/
example : ∃ s, Reach oldParams 2 [⟨0, true, true⟩, ⟨1, false, true⟩, ⟨2, true, true⟩] s ∧ terminal s = false ∧
    s.err = false ∧ s.acc = [0] ∧ W.holding 2 ∈ s.workers ∧ s.seed = some 0 :=
  ⟨_, reach_of_runLabels [.send 0, .send 1, .parse 0, .parse 1, .deliver 0, .send 1, .parse 1] Reach.init rfl,
    by decide, by decide, by decide, by decide, by decide⟩

/-- a finished error-free run (hypotheses of `pipeline_delivers`) and a finished run with an error under the fixed
parameters (hypotheses of `pipeline_error_iff`, right-hand side true): the run that was stuck before now ends -/
example : (∃ s, Reach fixedParams 2 twoGood s ∧ terminal s = true ∧ s.err = false) ∧
    (∃ s, Reach fixedParams 1 badGood s ∧ terminal s = true ∧ result s = none) :=
  ⟨⟨_, seed_schedule_dependent.1, by decide, by decide⟩,
   ⟨_, reach_of_runLabels [.send 0, .parse 0, .walkerAbort 0, .walkerFinish, .mergerFinish] Reach.init rfl, by decide, by decide⟩⟩

end Ach.Props.C10
