import Ach.Props.C03IATCode
import Ach.Props.C03ModelAccept
import Ach.Props.C03IATSample
/-!
# What the code accepts of IAT batches, the hand-written model accepts (C03)

The IAT analogue of `Ach.Props.C03ModelAccept`: if `IATBatch.verify()` as translated from the source on this run returns nil
under the default options for a non-empty IAT batch of any size, then the hand model's `iatBatchValidate {}` holds of the
model batch read off the same fields — so `validate_sound_iat_batch` and the IAT tamper theorems speak about the IAT
batches the code accepts.
-/
namespace Ach.Props.C03IATModelAccept
open Ach Ach.GoLite Ach.Gen Ach.Props.C03IATCode Ach.Props.ModelBridge Ach.Props.C03ModelAccept

/-- the model entry read off entry `i`: the model counts addenda, `B.recs i` the records of the entry with the entry
itself (hence `- 1`); `extraOK` (the record-level checks, of which `verify` says nothing) is set to true -/
def entryOf {c : Ctx} (B : IATStd c) (i : Nat) : VEntry :=
  { code := B.tc i, rdfi := B.rdfi i, checkDigit := B.cd i, amount := B.am i, trace := B.tr i,
    addendaCount := ((B.recs i).sum - 1).toNat, extraOK := true }

/-- the model batch; an IAT header has no company identification, so both sides of that comparison are empty -/
def toModel {c : Ctx} (B : IATStd c) : VBatch :=
  { header := { serviceClass := B.hscc, companyId := [], odfi := B.hodfi, batchNumber := B.hbn },
    entries := (List.range B.n).map (entryOf B),
    control := { serviceClass := B.cscc, entryAddendaCount := B.count, entryHash := B.hash, totalDebit := B.debit,
                 totalCredit := B.credit, companyId := [], odfi := B.codfi, batchNumber := B.cbn },
    extraOK := true }

/-- the IAT copy of the code lists is the standard one (regenerated tables) -/
theorem iat_lists_are_standard : Ach.iatCreditCodes = Ach.creditCodes ∧ Ach.iatDebitCodes = Ach.debitCodes :=
  ⟨rfl, rfl⟩

theorem iatTracePrefix_model (t b : Str) (h : Ach.Props.AcceptedIATTraces.iatTracePrefix t = .str b) :
    (stringField t 15).take 8 = b := by
  unfold Ach.Props.AcceptedIATTraces.iatTracePrefix sliceAscii at h
  split at h
  · simpa using h
  · cases h

theorem iat_code_accept_implies_model_accept (c : Ctx) (B : IATStd c) (hdef : Ach.Props.C03Code.defaultOpts c)
    (hn : 0 < B.n) (hrec : ∀ i, i < B.n → 1 ≤ (B.recs i).sum)
    (ha : run c v_IATBatch_verify = .accept) :
    iatBatchValidate {} (toModel B) = true := by
  obtain ⟨k1, k2, k3, k4, a1, a2, a3, e1, e3, e4⟩ := c03_iat_batch c B hdef ha
  obtain ⟨lc, ld⟩ := iat_lists_are_standard
  have hne : (toModel B).entries.isEmpty = false := by simp [toModel, Nat.ne_of_gt hn]
  have hent : (toModel B).entries.all iatEntryOK = true :=
    (all_map_range _ _ _).mpr fun i hi => by simp [iatEntryOK, entryOf, e1 i hi]
  have hcount : entryCount (toModel B).entries = B.count := by
    rw [k1]
    exact sumBy_map_range _ _ _ _ fun i hi => by have := hrec i hi; simp only [entryOf]; omega
  have hasc : tracesAscend ['-', '1'] (toModel B).entries = true := ascending_model B.tr (entryOf B) (fun _ => rfl) _ _ e4
  have hdeb : iatDebitTotal (toModel B).entries = B.debit := by
    rw [k4, iatDebitTotal, ld]
    exact sumBy_map_range _ _ _ _ fun _ _ => (debitPart_model _ _).symm
  have hcred : iatCreditTotal (toModel B).entries = B.credit := by
    rw [k3, iatCreditTotal, lc]
    exact sumBy_map_range _ _ _ _ fun _ _ => (creditPart_model _ _).symm
  have hhash : batchHash (toModel B).entries = B.hash := by
    rw [k2]
    exact congrArg (leastSignificantDigits · 10) (sumBy_map_range _ _ _ _ fun i _ => (rdfiNumber_eq (entryOf B i)).symm)
  have hpre : iatTracePrefixOK (stringField (toModel B).header.odfi 8) (toModel B).entries = true :=
    (all_map_range _ _ _).mpr fun i hi => decide_eq_true (iatTracePrefix_model (B.tr i) _ (e3 i hi))
  unfold iatBatchValidate
  rw [hne, hent, hcount, hasc, hdeb, hcred, hhash, hpre]
  simp [toModel, a1, a2, a3]

/-- the hypothesis of `validate_sound_iat_batch` holds of the model batch of an IAT batch the code accepted, and that batch
has an entry for each of its entries -/
theorem iat_model_theorems_apply_to_the_code (c : Ctx) (B : IATStd c) (hdef : Ach.Props.C03Code.defaultOpts c)
    (hn : 0 < B.n) (hrec : ∀ i, i < B.n → 1 ≤ (B.recs i).sum) (ha : run c v_IATBatch_verify = .accept) :
    iatBatchValidate {} (toModel B) = true ∧ (toModel B).entries.length = B.n := by
  exact ⟨iat_code_accept_implies_model_accept c B hdef hn hrec ha, by simp [toModel]⟩

/-- non-vacuity: the theorem applies to the sample IAT batch -/
theorem iat_sample_model_accepts :
    iatBatchValidate {} (toModel Ach.Props.C03IATSample.sampleIAT) = true :=
  iat_code_accept_implies_model_accept _ Ach.Props.C03IATSample.sampleIAT Ach.Props.C03IATSample.iat_sample_default_opts
    (by decide) (fun _ _ => by show (1 : Int) ≤ ([1, 1, 1, 1, 1, 1, 1, 1, 1, 0, 0] : List Int).sum; decide)
    Ach.Props.C03IATSample.iat_sample_verified

end Ach.Props.C03IATModelAccept
