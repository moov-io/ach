import Ach.Proofs.GoLitePaths
import Ach.Props.AcceptedFile
/-!
# An accepted file's control carries the sums over its batch controls (C03, `File.ValidateWith`)

`File.ValidateWith` — translated from the source on every run — is shown to have, today, this outline: the `SkipAll`
guard; the header check; then, for a file that is not an ADV file, a branch whose statements can only reject (the batch
count, the loop that validates every batch through the validator of its dynamic type, the control check) up to the
calls of `isEntryAddendaCount(false)`, `isFileAmount(false)`, the batch order check and `isEntryHash(false)`.  An
accepting run therefore passed the three helpers, and `Ach.Props.AcceptedFile` says what that means.

What files of both kinds share is stated once: the way to the block that asks `IsADV()` (`accepted_file_reaches_main`)
and the walk past the three helper calls, for either value of `IsADV` (`helpers_passed`); `Ach.Props.AcceptedFileADV`
uses them for ADV files.
-/

namespace Ach.Props.AcceptedFileValidate
open Ach Ach.GoLite Ach.Gen Ach.Props.AcceptedFile

def skipGuard : Prog := .ite (.flag "param" "SkipAll") (.ret .nil) .skip

/-- the branch of `File.ValidateWith` for files that are not ADV files, read off the translated program -/
def nonAdvPart : Prog :=
  match (stmts v_File_ValidateWith)[2]? with
  | some (Prog.block (Prog.seq _ (Prog.ite _ t _))) => t
  | _ => .skip

/-- `if err := f.helper(b); err != nil { return err }`; `callCount`, `callAmount`, `callHash` below are the three calls
with `b = false` -/
def helperCall (b : Bool) (helper : Prog) : Prog := .checkOn none .self ["IsADV"] [(.bool b)] helper

theorem helperCall_passes {b : Bool} {helper : Prog} {c : Ctx} {l : Locals}
    (h : (exec (helperCall b helper) c l).2 = .next) : (exec helper c [("IsADV", .bool b)]).2 = .ret (.err none) :=
  checkOn_passes rfl h

def callCount : Prog := .checkOn none .self ["IsADV"] [(.bool false)] v_File_isEntryAddendaCount
def callAmount : Prog := .checkOn none .self ["IsADV"] [(.bool false)] v_File_isFileAmount
def callHash : Prog := .checkOn none .self ["IsADV"] [(.bool false)] v_File_isEntryHash

theorem file_validate_outline :
    (stmts v_File_ValidateWith)[0]? = some skipGuard ∧
    (((stmts v_File_ValidateWith)[1]?).map (fun q => rejectOnly q && quiet q)) = some true ∧
    (stmts v_File_ValidateWith)[2]? =
      some (.block (.seq (.sub "_t1" [] [] v_File_IsADV) (.ite (.not (.var "_t1")) nonAdvPart .skip))) ∧
    (stmts v_File_ValidateWith).length > 3 ∧
    endsInRet nonAdvPart = true ∧
    (stmts nonAdvPart).drop 3 = callCount :: callAmount :: (stmts nonAdvPart).drop 5 ∧
    (stmts nonAdvPart).drop 6 = [callHash, .ret .nil] ∧
    ((stmts nonAdvPart).take 6).all (fun q => rejectOnly q && quiet q) = true :=
  ⟨rfl, rfl, rfl, by decide, rfl, rfl, rfl, rfl⟩

def hdrCheck : Prog := ((stmts v_File_ValidateWith)[1]?).getD .skip

def mainBlock : Prog := .block (.seq (.sub "_t1" [] [] v_File_IsADV) (.ite (.not (.var "_t1")) nonAdvPart .skip))

/-- the statements after that block: what an ADV file runs -/
def advPart : Prog := seqs ((stmts v_File_ValidateWith).drop 3)

theorem file_validate_outline2 :
    stmts v_File_ValidateWith = skipGuard :: hdrCheck :: mainBlock :: (stmts v_File_ValidateWith).drop 3 ∧
    (stmts v_File_ValidateWith).drop 3 ≠ [] ∧ rejectOnly hdrCheck = true ∧ quiet hdrCheck = true ∧
    rejectOnly callCount = true ∧ quiet callCount = true ∧ rejectOnly callAmount = true ∧ rejectOnly callHash = true ∧
    (stmts nonAdvPart).drop 5 ≠ [] :=
  ⟨rfl, by decide, rfl, rfl, rfl, rfl, rfl, rfl, by decide⟩

/-- an accepting run of `File.ValidateWith` without `SkipAll` passed the header check and went on, accepting, with the
block that asks `IsADV()` -/
theorem accepted_file_reaches_main (c : Ctx) (hskip : hasFlag c "param" "SkipAll" = false)
    (ha : run c v_File_ValidateWith = .accept) :
    ∃ pre, (exec (.seq mainBlock advPart) c pre).2 = .ret (.err none) := by
  obtain ⟨hS, hR, hro1, hq1, _⟩ := file_validate_outline2
  have h := run_accept.mp ha
  have hg : exec skipGuard c [] = ([], .next) := by simp [skipGuard, exec, eval, hskip, scopeExit]
  rw [← seqs_stmts v_File_ValidateWith, hS, exec_seqs_cons_next hg, seqs_cons_ne _ _ (by simp), seqs_cons_ne _ _ hR] at h
  simpa [advPart] using accept_seq hro1 (calm_of_quiet _ hq1) h

theorem accepted_file_enters_nonadv (c : Ctx) (hskip : hasFlag c "param" "SkipAll" = false)
    (hnadv : (exec v_File_IsADV c []).2 = .ret (.bool false))
    (ha : run c v_File_ValidateWith = .accept) :
    ∃ L, (exec nonAdvPart c L).2 = .ret (.err none) := by
  obtain ⟨pre, h⟩ := accepted_file_reaches_main c hskip ha
  obtain ⟨_, _, _, _, hend, _⟩ := file_validate_outline
  exact ⟨_, accept_enters_branch hnadv hend h⟩

/-- a function that calls the three helpers with `IsADV = b` (the first two one after the other, the third last before
`return nil`) among statements that can only reject: in an accepting run each of the three returned nil -/
theorem helpers_passed {p : Prog} {k m : Nat} {b : Bool}
    (hk : (stmts p).drop k = helperCall b v_File_isEntryAddendaCount :: helperCall b v_File_isFileAmount ::
      (stmts p).drop (k + 2))
    (hm : (stmts p).drop m = [helperCall b v_File_isEntryHash, .ret .nil]) (hkm : k + 1 ≤ m)
    (hall : ((stmts p).take m).all (fun q => rejectOnly q && quiet q) = true)
    {c : Ctx} {l : Locals} (h : (exec p c l).2 = .ret (.err none)) :
    (exec v_File_isEntryAddendaCount c [("IsADV", .bool b)]).2 = .ret (.err none) ∧
    (exec v_File_isFileAmount c [("IsADV", .bool b)]).2 = .ret (.err none) ∧
    (exec v_File_isEntryHash c [("IsADV", .bool b)]).2 = .ret (.err none) := by
  have hcalm := calm_of_all calm_of_quiet hall
  have hle : ∀ j ≤ m, ∀ s ∈ (stmts p).take j, rejectOnly s = true ∧ calm s = true :=
    fun j hj s hs => hcalm s (List.take_subset_take_left _ hj hs)
  have hk1 : (stmts p).drop (k + 1) = helperCall b v_File_isFileAmount :: (stmts p).drop (k + 2) := by
    rw [← List.drop_drop, hk]; rfl
  obtain ⟨_, h1⟩ := accept_passes hk (hle k (by omega)) rfl h
  obtain ⟨_, h2⟩ := accept_passes hk1 (hle (k + 1) hkm) rfl h
  obtain ⟨_, h3⟩ := accept_passes hm hcalm rfl h
  exact ⟨helperCall_passes h1, helperCall_passes h2, helperCall_passes h3⟩

/-- an accepting run of `File.ValidateWith` on a file that is not an ADV file, without `SkipAll`, ran the three helpers
with `IsADV = false`, and each returned nil -/
theorem accepted_file_ran_helpers (c : Ctx) (hskip : hasFlag c "param" "SkipAll" = false)
    (hnadv : (exec v_File_IsADV c []).2 = .ret (.bool false))
    (ha : run c v_File_ValidateWith = .accept) :
    (exec v_File_isEntryAddendaCount c [("IsADV", .bool false)]).2 = .ret (.err none) ∧
    (exec v_File_isFileAmount c [("IsADV", .bool false)]).2 = .ret (.err none) ∧
    (exec v_File_isEntryHash c [("IsADV", .bool false)]).2 = .ret (.err none) := by
  obtain ⟨L, hacc⟩ := accepted_file_enters_nonadv c hskip hnadv ha
  obtain ⟨_, _, _, _, _, hd3, hd6, hall6⟩ := file_validate_outline
  exact helpers_passed hd3 hd6 (by decide) hall6 hacc

/-- C03, file control — for every file value of standard and IAT batches (any number of them) on which
`File.ValidateWith(opts)` — translated from the source on this run — returns nil without `SkipAll`: the file control's
entry/addenda count (unless `UnequalAddendaCounts`), debit total, credit total and entry hash are the sums (the hash: the
ten least significant digits of the sum) of the corresponding fields of the batch controls and IAT batch controls -/
theorem accepted_file_control_sums (c : Ctx) (B : Batches c) (cp : String)
    (cntB cntI dbB dbI crB crI hsB hsI : Nat → Int) (cnt td tc hash : Int)
    (hskip : hasFlag c "param" "SkipAll" = false)
    (hnadv : (exec v_File_IsADV c []).2 = .ret (.bool false))
    (hC : lookup c.fields (joinPath c.recv "Control") = .ref cp)
    (h1 : ∀ i, i < B.nb → lookup c.fields (joinPath (B.bc i) "EntryAddendaCount") = .int (cntB i))
    (h2 : ∀ i, i < B.ni → lookup c.fields (joinPath (B.ic i) "EntryAddendaCount") = .int (cntI i))
    (h3 : ∀ i, i < B.nb → lookup c.fields (joinPath (B.bc i) "TotalDebitEntryDollarAmount") = .int (dbB i))
    (h4 : ∀ i, i < B.nb → lookup c.fields (joinPath (B.bc i) "TotalCreditEntryDollarAmount") = .int (crB i))
    (h5 : ∀ i, i < B.ni → lookup c.fields (joinPath (B.ic i) "TotalDebitEntryDollarAmount") = .int (dbI i))
    (h6 : ∀ i, i < B.ni → lookup c.fields (joinPath (B.ic i) "TotalCreditEntryDollarAmount") = .int (crI i))
    (h7 : ∀ i, i < B.nb → lookup c.fields (joinPath (B.bc i) "EntryHash") = .int (hsB i))
    (h8 : ∀ i, i < B.ni → lookup c.fields (joinPath (B.ic i) "EntryHash") = .int (hsI i))
    (e1 : lookup c.fields (joinPath cp "EntryAddendaCount") = .int cnt)
    (e2 : lookup c.fields (joinPath cp "TotalDebitEntryDollarAmountInFile") = .int td)
    (e3 : lookup c.fields (joinPath cp "TotalCreditEntryDollarAmountInFile") = .int tc)
    (e4 : lookup c.fields (joinPath cp "EntryHash") = .int hash)
    (ha : run c v_File_ValidateWith = .accept) :
    (hasFlag c "recv" "UnequalAddendaCounts" = false → cnt = total B cntB cntI) ∧
    td = total B dbB dbI ∧ tc = total B crB crI ∧ hash = leastSignificantDigits (total B hsB hsI) 10 := by
  obtain ⟨a1, a2, a3⟩ := accepted_file_ran_helpers c hskip hnadv ha
  obtain ⟨t1, t2⟩ := file_isFileAmount_accepts c B dbB crB dbI crI cp td tc h3 h4 h5 h6 hC e2 e3 a2
  exact ⟨fun hf => file_isEntryAddendaCount_accepts c B cntB cntI cp cnt hf h1 h2 hC e1 a1, t1, t2,
    file_isEntryHash_accepts c B hsB hsI cp hash h7 h8 hC e4 a3⟩

end Ach.Props.AcceptedFileValidate
