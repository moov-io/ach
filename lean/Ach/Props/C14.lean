import Ach.Model.ReadOnly
import Ach.Proofs.Field
import Ach.Generated.Sites
import Ach.Generated.Topics
/-!
# C14 — validating, rendering and serialising never modify the file  (partial)

* `write_set_census` (F) — the functions reachable from the read-only API (names `Validate*`, `String`, `*Field`,
  `MarshalJSON`, `is*`, `verify`, `calculate*`, `Write`, …) that assign through their receiver or call a mutator on
  it are exactly: `File.IsADV`, the two routing-number field methods of `FileHeader`, `EntryDetail.PaymentTypeField`
  (and `Writer.Write`'s own line counter).  A new assignment in any such function breaks this obligation.
* for each of the three, the effect is the identity on canonical values:
  `routing_field_noop` (stored value already trimmed — true of everything the Reader produces, `reader_routing_trimmed`),
  `payment_type_noop` (DiscretionaryData already "R" or "S" — what WEB/TEL validation requires),
  `isADV_noop` (every batch has a header and a control — true of Reader output and of constructor-built batches).
* `routing_field_counterexample` — an API-built header `" 231380104"` is changed by rendering (known finding D16).

Partial: that the remaining functions are pure is the census (syntactic, one level of calls); aliasing through
third-party code and `time.Now()` in the creation date/time (D10) are not exhibited.
-/
namespace Ach.Props.C14
open Ach.ReadOnly Ach.Gen

theorem write_set_census : receiverWrites =
    [("EntryDetail.PaymentTypeField", ["call:r.SetPaymentType"]),
     ("File.IsADV", ["call:r.Batches[i].SetHeader", "call:r.Batches[i].SetControl"]),
     ("FileHeader.ImmediateDestinationField", ["r.ImmediateDestination"]),
     ("FileHeader.ImmediateOriginField", ["r.ImmediateOrigin"]),
     ("Writer.Write", ["r.lineNum"])] := rfl

theorem mutators_unchanged : hashes_readonly = [("File.IsADV", 10105026287465456566), ("FileHeader.ImmediateDestinationField", 1518624854799193882), ("FileHeader.ImmediateOriginField", 16313789297560827662), ("EntryDetail.PaymentTypeField", 12723899991876305975), ("EntryDetail.SetPaymentType", 16810997189714608945)] := rfl

/-- rendering the routing field of a header whose stored value is trimmed leaves it alone -/
theorem routing_field_noop (stored : Str) (h : Trimmed stored) : routingFieldEffect stored = stored := by
  unfold routingFieldEffect; split
  · rfl
  · exact h

/-- whatever the Reader stores in those fields is trimmed (`trimRoutingNumberLeadingZero` ends in `TrimSpace`) -/
theorem reader_routing_trimmed (cols : Str) : Trimmed (trimSpace cols) := trimmed_trimSpace cols

theorem payment_type_noop (dd : Str) (h : dd = ['R'] ∨ dd = ['S']) : paymentTypeEffect dd = dd := by
  rcases h with rfl | rfl <;> decide

theorem isADV_noop : ∀ (bs : List BatchShell), (∀ b ∈ bs, b.hasHeader = true ∧ b.hasControl = true) → isADVEffect bs = bs
  | [], _ => rfl
  | ⟨_, _, _⟩ :: bs, h => by
    obtain ⟨⟨h1, h2⟩, hbs⟩ := List.forall_mem_cons.1 h
    cases h1; cases h2
    -- the batch is rebuilt with the header and control it already has, in either branch
    simp only [isADVEffect, isADV_noop bs hbs, ite_self]

/-- known finding D16 on the model: a stored value with a leading blank is rewritten by the first rendering -/
theorem routing_field_counterexample : routingFieldEffect " 231380104".toList ≠ " 231380104".toList := by decide +kernel

end Ach.Props.C14
