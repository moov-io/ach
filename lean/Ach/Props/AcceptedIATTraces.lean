import Ach.Proofs.GoLitePaths
import Ach.Generated.Validators
/-!
# IAT batches: every trace number begins with the ODFI (C03)
-/

namespace Ach.Props.AcceptedIATTraces
open Ach Ach.GoLite Ach.Gen

def iatOdfiBody : Prog :=
  .ite (.ne (.call2 "stringField" (.sel (.fld "Header") "ODFIIdentification") (.int 8))
      (.call3 "slice" (.call2 "stringField" (.sel (.var "entry") "TraceNumber") (.int 15)) (.int 0) (.int 8)))
    (.ret (.mkErr "ODFIIdentificationField")) .skip

theorem iat_isTraceNumberODFI_shape :
    v_IATBatch_isTraceNumberODFI =
      seqs [(.ite (.flag "recv" "BypassOriginValidation") (.ret .nil) .skip),
        (.forEach "entry" (.fld "Entries") iatOdfiBody), (.ret .nil)] := rfl

/-- the first eight columns of the trace number as `IATBatch.isTraceNumberODFI` takes them: of the 15-column field -/
def iatTracePrefix (t : Str) : Val := sliceAscii (stringField t 15) 0 8

theorem iatOdfiBody_next (c : Ctx) {hp ep : String} {odfi t : Str} {l : Locals}
    (hH : lookup c.fields (joinPath c.recv "Header") = .ref hp)
    (ho : lookup c.fields (joinPath hp "ODFIIdentification") = .str odfi)
    (ht : lookup c.fields (joinPath ep "TraceNumber") = .str t)
    (h : (exec iatOdfiBody c (("entry", .ref ep) :: l)).2 = .next) :
    iatTracePrefix t = .str (stringField odfi 8) := by
  have hg := (guard_next h).1
  simp [eval, lookup, hH, ho, ht, builtin2, builtin3] at hg
  exact cmpVals_ne_str hg

/-- C03, IAT — `IATBatch.isTraceNumberODFI()` returns nil without `BypassOriginValidation` only if the first eight columns
of **every** entry's trace number field are the header's ODFI identification -/
theorem iat_isTraceNumberODFI_accepts (c : Ctx) (hp p : String) (n : Nat) (tr : Nat → Str) (odfi : Str)
    (hflag : hasFlag c "recv" "BypassOriginValidation" = false)
    (hH : lookup c.fields (joinPath c.recv "Header") = .ref hp)
    (ho : lookup c.fields (joinPath hp "ODFIIdentification") = .str odfi)
    (hE : lookup c.fields (joinPath c.recv "Entries") = .lst p n)
    (htr : ∀ i, i < n → lookup c.fields (joinPath (elemPath p i) "TraceNumber") = .str (tr i))
    (h : (exec v_IATBatch_isTraceNumberODFI c []).2 = .ret (.err none)) :
    ∀ i, i < n → iatTracePrefix (tr i) = .str (stringField odfi 8) := by
  have hguard : exec (.ite (.flag "recv" "BypassOriginValidation") (.ret .nil) .skip) c [] = ([], .next) := by
    simp [exec, eval, hflag, scopeExit]
  rw [iat_isTraceNumberODFI_shape, exec_seqs_cons_next hguard] at h
  have hloop := forEach_visits (body := iatOdfiBody) (by decide) (accept_seq_left (by decide) h) hE
  exact fun i hi => iatOdfiBody_next c hH ho (htr i hi) (hloop i hi)

end Ach.Props.AcceptedIATTraces
