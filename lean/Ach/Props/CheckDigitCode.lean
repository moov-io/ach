import Ach.Proofs.GoLiteSteps
import Ach.Generated.Validators
/-!
# The translated `CalculateCheckDigit` computes the model's `calculateCheckDigit` (C03, C04)

`CalculateCheckDigit` (validators.go) is a built-in of the GoLite interpreter: the validators call the hand-written Lean
function `calculateCheckDigit`.  Here the Go function itself — translated from the source on every run, its
`for i, r := range routingNumber` loop as a loop over the indices of an ASCII string — is executed symbolically on every
ASCII argument and shown to return the very number the built-in returns, so that on ASCII input the built-in need not be
trusted.  (Arguments of 8 or 9 characters: one turn of the loop weighs one digit, `ccdBody_exec`, and the loop is followed
along the string by induction, `ccd_iter`; any other length returns -1 at once.)
-/
namespace Ach.Props.CheckDigitCode
open Ach Ach.GoLite Ach.Gen

/-- the statement of the loop body that adds the digit `n`, weighted by the position `i`, to `sum` -/
def weighStmt : Prog :=
  .ite (.or (.eq (.var "i") (.int 0)) (.or (.eq (.var "i") (.int 3)) (.eq (.var "i") (.int 6))))
    (.block (.assign "sum" (.add (.var "sum") (.mul (.var "n") (.int 3)))))
    (.ite (.or (.eq (.var "i") (.int 1)) (.or (.eq (.var "i") (.int 4)) (.eq (.var "i") (.int 7))))
      (.block (.assign "sum" (.add (.var "sum") (.mul (.var "n") (.int 7)))))
      (.ite (.or (.eq (.var "i") (.int 2)) (.eq (.var "i") (.int 5)))
        (.block (.assign "sum" (.add (.var "sum") (.var "n"))))
        .skip))

def ccdBody : Prog :=
  seqs [(.bind "r" (.call2 "index" (.var "routingNumber") (.var "i"))),
    (seqs [(.ite (.ge (.var "i") (.int 8)) .brk .skip),
      (.ite (.or (.lt (.var "r") (.int 48)) (.gt (.var "r") (.int 57))) (.ret (.sub (.int 0) (.int 1))) .skip),
      (.bind "n" (.sub (.var "r") (.int 48))),
      weighStmt])]

def ccdProg : Prog :=
  seqs [(.block (seqs [(.bind "n" (.call1 "utf8.RuneCountInString" (.var "routingNumber"))),
      (.ite (.and (.ne (.var "n") (.int 8)) (.ne (.var "n") (.int 9))) (.ret (.sub (.int 0) (.int 1))) .skip)])),
    (.bind "sum" (.int 0)),
    (.forIdx "i" (.call1 "asciiIndices" (.var "routingNumber")) ccdBody),
    (.ret (.sub (.call1 "roundUp10" (.var "sum")) (.var "sum")))]

theorem calculateCheckDigit_shape : v_CalculateCheckDigit = ccdProg := rfl

theorem weighStmt_exec (c : Ctx) (i : Nat) (hi : i < 8) (n a : Int) (r : Val) (rest : Locals) :
    exec weighStmt c (("n", .int n) :: ("r", r) :: ("i", .int i) :: ("sum", .int a) :: rest) =
      (("n", .int n) :: ("r", r) :: ("i", .int i) :: ("sum", .int (a + n * (checkWeights.getD i 0 : Nat))) :: rest, .next) := by
  have : i = 0 ∨ i = 1 ∨ i = 2 ∨ i = 3 ∨ i = 4 ∨ i = 5 ∨ i = 6 ∨ i = 7 := by omega
  rcases this with rfl | rfl | rfl | rfl | rfl | rfl | rfl | rfl <;>
    simp [weighStmt, exec, eval, lookup, cmpVals, arith, update, scopeExit, checkWeights]

theorem isDigit_iff (a : Char) : isDigit a = true ↔ 48 ≤ a.toNat ∧ a.toNat ≤ 57 := by
  unfold isDigit
  simp only [Bool.and_eq_true, decide_eq_true_eq]
  exact ⟨fun ⟨h1, h2⟩ => ⟨Char.le_def.mp h1, Char.le_def.mp h2⟩, fun ⟨h1, h2⟩ => ⟨Char.le_def.mpr h1, Char.le_def.mpr h2⟩⟩

/-- the locals of the loop: the running sum and the argument -/
def ccdState (s : Str) (a : Int) : Locals := [("sum", .int a), ("routingNumber", .str s)]

/-- one turn of the loop at position `i`, where the argument holds `ch`: from the ninth character on the loop is left;
before that a digit is weighed and added, and anything else returns -1 -/
theorem ccdBody_exec (c : Ctx) (s : Str) (i : Nat) (ch : Char)
    (hidx : builtin2 "index" (.str s) (.int i) = .int ch.toNat) (a : Int) :
    exec ccdBody c (("i", .int i) :: ccdState s a) =
      if 8 ≤ i then (("r", .int ch.toNat) :: ("i", .int i) :: ccdState s a, .brk)
      else if isDigit ch then
        (("n", .int (digitVal ch)) :: ("r", .int ch.toNat) :: ("i", .int i) ::
          ccdState s (a + (digitVal ch * checkWeights.getD i 0 : Nat)), .next)
      else (("r", .int ch.toNat) :: ("i", .int i) :: ccdState s a, .ret (.int (-1))) := by
  simp only [ccdBody, seqs, ccdState]
  rw [exec_seq_next (exec_bind (v := .int ch.toNat) ?idx (by simp)),
    exec_guard (b := decide (8 ≤ i)) ?far rfl (by simp),
    exec_guard (b := !isDigit ch) ?nondigit rfl (by simp)]
  case idx => simp only [eval, lookup_cons_self, lookup_cons_ne, ne_eq, String.reduceEq, not_false_eq_true, hidx]
  case far => simp [eval, lookup, cmpVals]; omega
  case nondigit =>
    -- `r < '0' || r > '9'` is what `isDigit` negates
    have hd : (!isDigit ch) = (decide (ch.toNat < 48) || decide (57 < ch.toNat)) := by
      rw [Bool.eq_iff_iff, Bool.not_eq_true', ← Bool.not_eq_true, isDigit_iff]; simp; omega
    rw [hd]
    exact eval_or (by simp [eval, lookup, cmpVals]; omega) (by simp [eval, lookup, cmpVals]; omega)
  by_cases h8 : 8 ≤ i
  · simp only [h8, decide_true, if_true]
  · cases hd : isDigit ch
    · simp [h8, eval, arith]
    · have hn : eval c [("r", .int ch.toNat), ("i", .int i), ("sum", .int a), ("routingNumber", .str s)]
          (.sub (.var "r") (.int 48)) = .int (digitVal ch) := by
        have := (isDigit_iff ch).mp hd
        simp [eval, lookup, arith, digitVal]; omega
      rw [exec_seq_next (exec_bind hn (by simp)), weighStmt_exec c i (by omega)]
      simp [h8, Int.natCast_mul]

theorem index_ascii (s : Str) (hA : allAscii s = true) (i : Nat) (hl : i < s.length) :
    builtin2 "index" (.str s) (.int i) = .int (s[i]).toNat := by
  have : (i : Int) < s.length := by omega
  simp [builtin2, hA, this, hl]

/-- the weighted sum of the digits from position `i` on -/
def tailSum (s : Str) (i : Nat) : Nat :=
  (List.zipWith (· * ·) (checkWeights.drop i) (((s.drop i).take (8 - i)).map digitVal)).sum

/-- the loop from position `i` with `sum = a`: -1 if a character before the ninth is not a digit, else the weighted
digits are added -/
theorem ccd_iter (c : Ctx) (s : Str) (hA : allAscii s = true) :
    ∀ (m i : Nat) (a : Int), i + m = s.length →
      if ((s.drop i).take (8 - i)).all isDigit then
        iter (fun l' => exec ccdBody c l') (fun k => .int k) "i" (List.range' i m) (ccdState s a) =
          (ccdState s (a + (tailSum s i : Nat)), .next)
      else (iter (fun l' => exec ccdBody c l') (fun k => .int k) "i" (List.range' i m) (ccdState s a)).2 = .ret (.int (-1)) := by
  intro m
  induction m with
  | zero =>
      intro i a hm
      have : s.drop i = [] := List.drop_eq_nil_of_le (by omega)
      simp [this, iter, tailSum]
  | succ m ih =>
      intro i a hm
      have hl : i < s.length := by omega
      rw [List.range'_succ]
      simp only [iter, ccdBody_exec c s i s[i] (index_ascii s hA i hl) a]
      by_cases h8 : 8 ≤ i
      · -- the ninth character: the loop is left, and nothing was left to weigh
        have h0 : 8 - i = 0 := by omega
        simp [h8, h0, tailSum, scopeExit, ccdState]
      · -- one more character to weigh: the head of what is left of the string, its weight the head of what is left
        -- of the weights
        have hd : (s.drop i).take (8 - i) = s[i] :: (s.drop (i + 1)).take (8 - (i + 1)) := by
          rw [List.drop_eq_getElem_cons hl, show 8 - i = (8 - (i + 1)) + 1 by omega, List.take_succ_cons]
        have hw : checkWeights.drop i = checkWeights.getD i 0 :: checkWeights.drop (i + 1) := by
          have : i < checkWeights.length := by simp [checkWeights]; omega
          rw [List.drop_eq_getElem_cons this]; simp [List.getD, this]
        have hts : tailSum s i = digitVal s[i] * checkWeights.getD i 0 + tailSum s (i + 1) := by
          rw [tailSum, tailSum, hd, hw, Nat.mul_comm]
          rfl
        have hrec := ih (i + 1) (a + (digitVal s[i] * checkWeights.getD i 0 : Nat)) (by omega)
        simp only [hd, List.all_cons, if_neg h8] at hrec ⊢
        cases isDigit s[i]
        · simp
        · simp only [Bool.true_and, if_true]
          rw [show scopeExit (ccdState s a) _ = ccdState s (a + (digitVal s[i] * checkWeights.getD i 0 : Nat)) from rfl,
            hts, Int.natCast_add, ← Int.add_assoc]
          exact hrec

/-- C03 / C04: the Go function `CalculateCheckDigit`, as translated from the source on this run, returns on every ASCII
argument the number the model function `calculateCheckDigit` returns — the function `check_digit_spec`
(`Ach.Props.C03`) characterises and that the validators' built-in call stands for -/
theorem calculateCheckDigit_exec (c : Ctx) (s : Str) (hA : allAscii s = true) :
    (exec v_CalculateCheckDigit c [("routingNumber", .str s)]).2 = .ret (.int (calculateCheckDigit s)) := by
  rw [calculateCheckDigit_shape]
  simp only [ccdProg, seqs]
  rw [exec_initGuard (v := .int s.length) (b := decide (s.length ≠ 8) && decide (s.length ≠ 9)) ?count (by simp) ?len rfl
    (by simp)]
  case count => simp only [eval, lookup_cons_self]; rw [builtin1]
  case len =>
    exact eval_and (by simp [eval, lookup_cons_self, cmpVals]; omega) (by simp [eval, lookup_cons_self, cmpVals]; omega)
  unfold calculateCheckDigit
  simp only [Bool.and_eq_true, decide_eq_true_eq]
  by_cases hlen : s.length ≠ 8 ∧ s.length ≠ 9
  · rw [if_pos hlen, if_pos hlen]
    simp [eval, arith]
  · rw [if_neg hlen, if_neg hlen, exec_seq_next (l1 := ccdState s 0) (exec_bind_int ..)]
    -- the loop from the first position with `sum = 0` is what the `range` statement runs
    have hit := ccd_iter c s hA s.length 0 0 (by simp)
    rw [← List.range_eq_range', ← exec_forIdx_lst (p := "") (coll := .call1 "asciiIndices" (.var "routingNumber")) ?idxs] at hit
    case idxs => simp [eval, lookup, builtin1, hA, ccdState]
    have hts : tailSum s 0 = weightedSum ((s.take 8).map digitVal) := rfl
    simp only [Nat.sub_zero, List.drop_zero, hts, Int.zero_add] at hit
    split at hit
    · rename_i hall
      rw [exec_seq_next hit]
      simp [exec, eval, lookup, builtin1, arith, hall, ccdState]
    · rename_i hall
      rw [exec_seq_ret hit]
      simp [hall]

/-- the built-in the validators call and the translated function agree (ASCII arguments) -/
theorem builtin_is_translated (c : Ctx) (s : Str) (hA : allAscii s = true) :
    .ret (builtin1 c.ext "CalculateCheckDigit" (.str s)) = (exec v_CalculateCheckDigit c [("routingNumber", .str s)]).2 := by
  rw [calculateCheckDigit_exec c s hA]
  simp [builtin1]

example : (exec v_CalculateCheckDigit { fields := [], recvFlags := [], paramFlags := [], ext := [] }
    [("routingNumber", .str "23138010".toList)]).2 = .ret (.int 4) := by decide +kernel

end Ach.Props.CheckDigitCode
