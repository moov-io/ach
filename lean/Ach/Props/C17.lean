import Ach.Proofs.Server
import Ach.Model.ServerDriver
import Ach.Generated.Sites
/-!
# C17 — The HTTP server is a faithful store: what goes in comes out

Model: `Ach.Server.step` (`Ach/Model/Server.lean`), one transition per decoded request, mirroring routing.go,
files.go, batches.go, service.go, repository.go; tied to the source by `server_functions_unchanged` (body hashes of
every mirrored function, regenerated on each run) and by the `server` correspondence stream
(`Ach.Server.runOps`, `Ach/Model/ServerDriver.lean`).

* `server_refines_map` — for **every** request sequence the repository state read as a function `Id → Option File`
  equals the fold of `specStep` over the empty map, and every response is the specification's.
* where the code is **not** a faithful store (stated exactly, to be checked against the real server):
  `create_stores_despite_parse_error`, `parse_error_masks_duplicate`, `get_after_build` (+ `build_changes_get_counterexample`),
  `read_requests_write_back`, `missing_id_statuses`, `status_never_created_conflict`,
  `derived_store_collision_is_200`.
  "Returned unchanged" therefore holds under `Stable L f` (the library's in-place `Create` / `FlattenBatches` /
  `SegmentFile` are the identity on the stored file — for `Create` on a parsed valid file that is property C05):
  `stored_file_stable`.

Trusted / modelled, not verified: the `ach` library calls are uninterpreted (`Lib`); value semantics for files (no
aliasing between stored files: `SegmentFile` shares `Batcher` pointers between source and parts, file.go:1180-1182);
`ValidateWith` and the Writer do not modify the file; `Flatten` always sets a non-empty ID (file.go:1277); the read-
after-write law of Go fields (`f.ID = x` then `f.ID == x`) is built into `decodeCreate` / `stampBatch`; wrapped
error strings never contain the substrings `codeFrom` looks for; sequential requests (concurrency is C18).
Not exhibited: HTTP parsing, gorilla/mux routing, go-kit encode/decode plumbing (decode failures before the endpoint,
a `POST /segment` JSON body without a "file" key), JSON encoding, the balance endpoint (excluded by the property),
the TTL cleanup goroutine.
-/
namespace Ach.Props.C17
open Ach.Server

variable {F T : Type}

/-- every function of package server the model mirrors, with the hash of its normalised body -/
def modelled : List (String × Nat) := [
  ("MakeHTTPHandler", 7355924792161024232), ("codeFrom", 18082956264989600820),
  ("encodeResponse", 9302670982442540319), ("encodeTextResponse", 17490993346791174662),
  ("encodeError", 8754624342635834157), ("marshalStructWithError", 10946647436394874351),
  ("readValidateOpts", 14411612112246954803), ("GetLineEnding", 5589005958046905319),
  ("createFileEndpoint", 7394087492345372775), ("decodeCreateFileRequest", 12080995449744339690),
  ("getFilesEndpoint", 8776169571605000254), ("getFileEndpoint", 1986556982122931839),
  ("decodeGetFileRequest", 3405565854104192090), ("deleteFileEndpoint", 6971931292991804372),
  ("decodeDeleteFileRequest", 18136197449884473781), ("buildFileEndpoint", 8027062489996156947),
  ("decodeBuildFileRequest", 14032383900110207630), ("getFileContentsEndpoint", 13489338919452769743),
  ("decodeGetFileContentsRequest", 12072299066360164233), ("validateFileEndpoint", 16504151500755762674),
  ("decodeValidateFileRequest", 16112665202153066307), ("segmentFileIDEndpoint", 4572708182168131678),
  ("decodeSegmentFileIDRequest", 7808695945346996735), ("segmentFileEndpoint", 462704198495247102),
  ("decodeSegmentFileRequest", 14441302972953111278), ("flattenBatchesEndpoint", 16634923472264188102),
  ("decodeFlattenBatchesRequest", 13956109844349647230), ("createBatchEndpoint", 14191987002992737437),
  ("decodeCreateBatchRequest", 7134579207217838288), ("getBatchesEndpoint", 7783797358016236442),
  ("decodeGetBatchesRequest", 12334519328759065534), ("getBatchEndpoint", 16509385431742696556),
  ("decodeGetBatchRequest", 6454891487863962716), ("deleteBatchEndpoint", 5435369781161315254),
  ("decodeDeleteBatchRequest", 2209634321487423691),
  ("repositoryInMemory.StoreFile", 5238297674936942396), ("repositoryInMemory.FindFile", 14180771047204466752),
  ("repositoryInMemory.FindAllFiles", 5390125899727251336), ("repositoryInMemory.DeleteFile", 10664202471910957164),
  ("repositoryInMemory.StoreBatch", 10369522212633806333), ("repositoryInMemory.FindBatch", 751639383380015541),
  ("repositoryInMemory.FindAllBatches", 4695842734299230670), ("repositoryInMemory.DeleteBatch", 257065001440626611),
  ("service.GetFile", 14626936114301758146), ("service.GetFiles", 14803411663628934762),
  ("service.BuildFile", 4258440359166792272), ("service.DeleteFile", 405481581686156109),
  ("service.GetFileContents", 7980064745904965632), ("service.ValidateFile", 10572267819059346924),
  ("service.SegmentFileID", 7888584268474920999), ("service.SegmentFile", 8076978809228121562),
  ("service.FlattenBatches", 14220328066971616891), ("service.CreateBatch", 9644805027652575923),
  ("service.GetBatch", 1632467170175104115), ("service.GetBatches", 121674364257705592),
  ("service.DeleteBatch", 2383607826129551808),
  ("createFileResponse.error", 17619553237030079424), ("getFileResponse.error", 17619553237030079424),
  ("getFilesResponse.error", 17619553237030079424), ("deleteFileResponse.error", 17619553237030079424),
  ("buildFileResponse.error", 17619553237030079424), ("getFileContentsResponse.error", 17619553237030079424),
  ("validateFileResponse.error", 17619553237030079424), ("createBatchResponse.error", 17619553237030079424),
  ("getBatchResponse.error", 17619553237030079424), ("getBatchesResponse.error", 17619553237030079424),
  ("deleteBatchResponse.error", 17619553237030079424)]

/-- response types that must *not* implement `errorer` (their store errors are answered with 200) -/
def notErrorers : List String := ["segmentedFilesResponse.error", "flattenBatchesResponse.error"]

theorem lookup_filter {α β γ : Type} [BEq α] [BEq γ] [LawfulBEq α] [LawfulBEq γ] (g : α → γ) (k : α)
    (l : List (α × β)) : (l.filter fun p => g p.1 == g k).lookup k = l.lookup k := by
  induction l with
  | nil => rfl
  | cons p l ih =>
    obtain ⟨a, b⟩ := p
    rw [List.filter_cons]
    by_cases h : k == a
    · rw [eq_of_beq h, beq_self_eq_true, if_pos rfl, List.lookup_cons_self, List.lookup_cons_self]
    · have h' := Bool.eq_false_iff.mpr h
      split <;> simp only [List.lookup_cons, h', ih]

/-- **F**: the modelled functions are the ones in the source today (any edit to one of them breaks this), and the
flatten / segment responses still have no `error()` method -/
theorem server_functions_unchanged :
    modelled.all (fun p => Gen.serverHashes.lookup p.1 == some p.2) = true ∧
    notErrorers.all (fun n => (Gen.serverHashes.lookup n).isNone) = true := by
  -- The kernel compares names byte by byte, which is its dearest step here; looking only among the names of the same
  -- byte length leaves it a few candidates per lookup in place of half the table.
  have h (k : String) := (lookup_filter String.utf8ByteSize k Gen.serverHashes).symm
  simp only [h]
  decide +kernel

/-- over any request sequence the server behaves as the map `specStep` describes: same final map and draw counter, and
every response is the one the specification gives (for `GET /files`, the files of an enumeration of the map) -/
theorem server_refines_map (L : Lib F T) (reqs : List Req) :
    abs (run L init reqs).1 = specRun L ⟨fun _ => none, 0⟩ reqs ∧
    RespsOK L ⟨fun _ => none, 0⟩ reqs (run L init reqs).2 :=
  ⟨(run_refines L init inv_init reqs).1, (run_refines L init inv_init reqs).2.1⟩

/-- the same from any reachable (duplicate-free) state, one step at a time -/
theorem server_step_refines (L : Lib F T) (s : State F) (h : Inv s) (r : Req) :
    abs (step L s r).1 = (specStep L (abs s) r).1 ∧ RespOK L (abs s) r (step L s r).2 ∧ Inv (step L s r).1 :=
  ⟨step_refines_state L s r, step_respOK L s r h, inv_step L s r h⟩

/-- `GET /files/{id}` answers exactly the stored value -/
theorem get_returns_stored (L : Lib F T) (s : State F) (id : Id) :
    step L s (.get id) = (s, match find s.files id with
                             | some f => ⟨.ok, .file f⟩
                             | none => ⟨.notFound, .none⟩) := by
  dsimp only [step, getFile]
  cases find s.files id <;> rfl

/-- clause "a created file is returned by GET": after a create answered 200 with `{id, file}`, `GET id` answers 200
with that very file -/
theorem get_after_create (L : Lib F T) (s : State F) (path : Option Id) (json : Bool) (body : Tok) (opts : Opts)
    (id : Id) (f : F) (h : (step L s (.create path json body opts)).2 = ⟨.ok, .idFile id f⟩) :
    (step L (step L s (.create path json body opts)).1 (.get id)).2 = ⟨.ok, .file f⟩ := by
  rw [get_returns_stored, create_ok_stored h]

/-- **deviation** (files.go:90 stores before :108-110 looks at the parse error; decode :148-150 always yields a
file): whenever the ID is free the submitted file is stored — also when the answer is the parse error -/
theorem create_stores_despite_parse_error (L : Lib F T) (s : State F) (path : Option Id) (json : Bool) (body : Tok)
    (opts : Opts) (hfree : find s.files (decodeCreate L s.next path json body opts).id = none) :
    find (step L s (.create path json body opts)).1.files (decodeCreate L s.next path json body opts).id =
      some (decodeCreate L s.next path json body opts).file ∧
    ((decodeCreate L s.next path json body opts).parseErr = true →
      (step L s (.create path json body opts)).2.status = .libErr) := by
  constructor
  · rw [find_step]; exact Map.ins_self hfree
  · intro hp
    rw [step_refines_resp L s (.create path json body opts)]; exact if_pos hp

theorem create_uses_path_id (L : Lib F T) (n : Nat) (p : Id) (json : Bool) (body : Tok) (opts : Opts) :
    (decodeCreate L n (some p) json body opts).id = p := rfl

/-- clause "IDs are unique": creating under an ID that exists is refused (400; never 200) and leaves the whole
repository as it was.  **deviation** `parse_error_masks_duplicate`: if the body also failed to parse, the answer is
the parse error, not "already exists" (files.go:108-110). -/
theorem duplicate_create_refused (L : Lib F T) (s : State F) (path : Option Id) (json : Bool) (body : Tok)
    (opts : Opts) (g : F) (h : find s.files (decodeCreate L s.next path json body opts).id = some g) :
    (step L s (.create path json body opts)).1.files = s.files ∧
    (step L s (.create path json body opts)).2.status =
      (if (decodeCreate L s.next path json body opts).parseErr then .libErr else .badRequest) := by
  simp only [step, createFile, store, h, Option.getD_none, Option.isNone_none, if_true, and_self]

theorem parse_error_masks_duplicate (L : Lib F T) (s : State F) (id : Id) (json : Bool) (body : Tok) (opts : Opts)
    (g : F) (h : find s.files id = some g) (hp : (decodeCreate L s.next (some id) json body opts).parseErr = true) :
    (step L s (.create (some id) json body opts)).2.status = .libErr := by
  rw [(duplicate_create_refused L s (some id) json body opts g h).2, hp]; rfl

/-- clause "GET contents = the writer's output": `Create` succeeds ⇒ the body is `writeText` of the (re-created)
stored file with the requested line ending; under `Stable` that is the stored file itself -/
theorem contents_is_writer_output (L : Lib F T) (s : State F) (id : Id) (crlf : Bool) (f : F) (t : T)
    (hf : find s.files id = some f) (hc : (L.create f).2 = none) (hw : L.writeText (L.create f).1 crlf = .ok t) :
    (step L s (.contents id crlf)).2 = ⟨.ok, .text t⟩ := by
  simp [step, getFileContents, hf, hc, hw]

/-- a missing ID, a `Create` error and a writer error are answered with an error status and no body
(before /repo commit f9ebbe96 all three were answered 200 with an empty body) -/
theorem contents_failure_is_error (L : Lib F T) (s : State F) (id : Id) (crlf : Bool)
    (h : find s.files id = none ∨ ∃ f, find s.files id = some f ∧
      ((L.create f).2.isSome ∨ ∃ e, L.writeText (L.create f).1 crlf = .error e)) :
    (step L s (.contents id crlf)).2.status ≠ .ok ∧ (step L s (.contents id crlf)).2.body = .none := by
  rcases h with h | ⟨f, hf, hc | ⟨e, he⟩⟩
  · simp [step, getFileContents, h]
  · simp [step, getFileContents, hf, hc]
  · simp only [step, getFileContents, hf, he]; split <;> simp

/-- clause "validate = library": 200 iff `ValidateWith(opts)` accepts the stored file; nothing changes -/
theorem validate_is_library (L : Lib F T) (s : State F) (id : Id) (opts : Opts) (f : F)
    (hf : find s.files id = some f) :
    step L s (.validate id opts) = (s, ⟨if (L.validate f opts).isSome then .badRequest else .ok, .none⟩) := by
  simp only [step, validateFile, hf]

/-- clause "build = library": the answer is the receiver after `File.Create` with `Create`'s verdict — and
(**deviation**, service.go:124 acts on the stored pointer) that value replaces the stored file -/
theorem build_is_library (L : Lib F T) (s : State F) (id : Id) (f : F) (hf : find s.files id = some f) :
    (step L s (.build id)).2 = ⟨if (L.create f).2.isSome then .libErr else .ok, .file (L.create f).1⟩ ∧
    find (step L s (.build id)).1.files id = some (L.create f).1 := by
  refine ⟨by simp only [step, buildFile, hf], ?_⟩
  rw [find_step]
  dsimp only [specStep, abs]
  simp only [hf, Map.upd_self]

/-- **deviation**: `GET` after `build` returns `Create`'s output, not what was stored -/
theorem get_after_build (L : Lib F T) (s : State F) (id : Id) (f : F) (hf : find s.files id = some f) :
    (step L (step L s (.build id)).1 (.get id)).2 = ⟨.ok, .file (L.create f).1⟩ := by
  rw [get_returns_stored, (build_is_library L s id f hf).2]

/-- **deviation**, all four "read" endpoints that call library methods through the stored pointer (service.go:124,
137, 238/242, 256/259): the stored file becomes the receiver's value after the calls -/
theorem read_requests_write_back (L : Lib F T) (s : State F) (id : Id) (crlf : Bool) (f : F)
    (hf : find s.files id = some f) :
    find (step L s (.contents id crlf)).1.files id = some (L.create f).1 ∧
    find (step L s (.build id)).1.files id = some (L.create f).1 ∧
    find (step L s (.flatten id)).1.files id =
      some (if (L.create f).2.isSome then (L.create f).1 else (L.flatten (L.create f).1).1) ∧
    find (step L s (.segment id)).1.files id = some (svcSegment L f).1 := by
  simp only [find_step]
  dsimp only [specStep, abs]
  simp only [hf]
  refine ⟨Map.upd_self .., Map.upd_self .., ?_, ?_⟩
  · split
    · exact Map.upd_self ..
    · split
      · exact Map.upd_self ..
      · exact Map.ins_of_some (Map.upd_self ..)
  · split
    · exact Map.upd_self ..
    · exact Map.insOpt_of_some (Map.insOpt_of_some (Map.upd_self ..))

/-- clause "flatten = library": when `Create` and `FlattenBatches` succeed the answer is the library's flattened file
stamped with the next generated ID, and it is stored under that ID if the ID is free -/
theorem flatten_is_library (L : Lib F T) (s : State F) (id : Id) (f g : F) (hf : find s.files id = some f)
    (hc : (L.create f).2 = none) (hfl : (L.flatten (L.create f).1).2 = .ok g) :
    (step L s (.flatten id)).2 = ⟨.ok, .idFile (L.freshId s.next) (L.setId g (L.freshId s.next))⟩ ∧
    (find s.files (L.freshId s.next) = none →
      find (step L s (.flatten id)).1.files (L.freshId s.next) = some (L.setId g (L.freshId s.next))) ∧
    (step L s (.flatten id)).1.next = s.next + 1 := by
  rw [step_refines_resp L s (.flatten id), find_step, next_step]
  dsimp only [specStep, abs]
  simp only [hf, hc, hfl, Option.isSome_none, Bool.false_eq_true, if_false]
  refine ⟨trivial, fun hfree => Map.ins_self ?_, trivial⟩
  rw [Map.upd_of_ne fun e => by rw [e, hf] at hfree; cases hfree]
  exact hfree

/-- flatten / segment pass a `Create` error through (`libErr`) -/
theorem flatten_segment_errors (L : Lib F T) (s : State F) (id : Id) (f : F) (hf : find s.files id = some f)
    (hc : (L.create f).2.isSome) :
    (step L s (.flatten id)).2 = ⟨.libErr, .none⟩ ∧ (step L s (.segment id)).2 = ⟨.libErr, .none⟩ := by
  constructor
  · simp [step, flattenBatches, hf, hc]
  · simp [step, segmentFileID, hf, svcSegment, hc]

/-- clause "segment = library": when `Create` and `SegmentFile` succeed the answer carries the library's credit and
debit files stamped with the next two generated IDs (an empty side is omitted), each stored under its ID if free -/
theorem segment_is_library (L : Lib F T) (s : State F) (id : Id) (f : F) (cd : Option F × Option F)
    (hf : find s.files id = some f) (hc : (L.create f).2 = none) (hsg : (L.segment (L.create f).1).2 = .ok cd) :
    (step L s (.segment id)).2 = ⟨.ok, .seg (segParts L s.next cd).1 (segParts L s.next cd).2⟩ ∧
    find (step L s (.segment id)).1.files =
      ((Map.upd (find s.files) id (L.segment (L.create f).1).1).insOpt (segParts L s.next cd).1).insOpt
        (segParts L s.next cd).2 ∧
    (step L s (.segment id)).1.next = s.next + 2 := by
  have hsv : svcSegment L f = ((L.segment (L.create f).1).1, some cd) := by simp [svcSegment, hc, hsg]
  rw [step_refines_resp L s (.segment id), find_step, next_step]
  dsimp only [specStep, abs]
  simp only [hf, hsv, and_self]

/-- **deviation** (files.go:591-615, 791-809: the `StoreFile` error is put in a response type without `error()`):
when a generated ID is already taken the derived file is *not* stored and the answer is still 200 with that file -/
theorem derived_store_collision_is_200 (L : Lib F T) (s : State F) (id : Id) (f g h : F)
    (hf : find s.files id = some f) (hc : (L.create f).2 = none) (hfl : (L.flatten (L.create f).1).2 = .ok g)
    (htaken : find s.files (L.freshId s.next) = some h) (hne : L.freshId s.next ≠ id) :
    (step L s (.flatten id)).2.status = .ok ∧
    find (step L s (.flatten id)).1.files (L.freshId s.next) = some h := by
  refine ⟨by simp [step, flattenBatches, hf, hc, hfl], ?_⟩
  rw [find_step]
  exact (spec_frame L (abs s) (.flatten id)).1 _ h htaken fun e => hne (Option.some.inj e).symm

/-- clause "batch endpoints = library", add: a batch whose ID is new to the file is appended with `AddBatch` and
its ID answered; one whose ID exists is refused with 400 and the file is untouched -/
theorem addBatch_is_library (L : Lib F T) (s : State F) (id : Id) (b : Batch) (f : F)
    (hf : find s.files id = some f) :
    (hasBatch L f (stampBatch L s.next b).2.1 = false →
      (step L s (.addBatch id b)).2 = ⟨.ok, .id (stampBatch L s.next b).2.1⟩ ∧
      find (step L s (.addBatch id b)).1.files id = some (L.addBatch f (stampBatch L s.next b).1)) ∧
    (hasBatch L f (stampBatch L s.next b).2.1 = true →
      (step L s (.addBatch id b)).2 = ⟨.badRequest, .none⟩ ∧ (step L s (.addBatch id b)).1.files = s.files) := by
  constructor <;> intro h <;> simp [step, createBatch, hf, h, find_put_eq]

/-- get: the first batch of `File.Batches` with that ID, else 404 -/
theorem getBatch_is_library (L : Lib F T) (s : State F) (id bid : Id) (f : F) (hf : find s.files id = some f) :
    step L s (.getBatch id bid) = (s, match (L.batches f).find? (isBatch L bid) with
                                     | some b => ⟨.ok, .batch b⟩
                                     | none => ⟨.notFound, .none⟩) := by
  cases h : (L.batches f).find? (isBatch L bid) <;> simp [step, getBatch, hf, h]

/-- list: `File.Batches` of the stored file (`null` for a missing file, still 200) -/
theorem batches_is_library (L : Lib F T) (s : State F) (id : Id) :
    step L s (.batches id) = (s, ⟨.ok, .batches ((find s.files id).map L.batches)⟩) := rfl

/-- delete: the last batch with that ID is cut out of `File.Batches` (nothing else of the file changes) -/
theorem delBatch_is_library (L : Lib F T) (s : State F) (id bid : Id) (f : F) (i : Nat)
    (hf : find s.files id = some f) (hi : lastIdx (isBatch L bid) (L.batches f) = some i) :
    (step L s (.delBatch id bid)).2 = ⟨.ok, .none⟩ ∧
    find (step L s (.delBatch id bid)).1.files id = some (L.dropBatch f i) := by
  constructor <;> simp [step, deleteBatch, hf, hi, find_put_eq]

/-- clause "after DELETE the ID is not found": the key is gone, `GET` answers 404 -/
theorem delete_then_not_found (L : Lib F T) (s : State F) (id : Id) :
    (step L s (.delete id)).2 = ⟨.ok, .none⟩ ∧
    find (step L s (.delete id)).1.files id = none ∧
    (step L (step L s (.delete id)).1 (.get id)).2 = ⟨.notFound, .none⟩ := by
  have h : find (step L s (.delete id)).1.files id = none := by rw [find_step]; exact if_pos rfl
  exact ⟨rfl, h, by rw [get_returns_stored, h]⟩

/-- **status deviations** for an ID that is not stored: contents 500 (the wrapped "not found"), validate 400, build 500, list-batches
200 `null`, delete-batch 500, delete 200; only get / flatten / segment / add-batch / get-batch say 404 -/
theorem missing_id_statuses (L : Lib F T) (s : State F) (id bid : Id) (b : Batch) (o : Opts) (c : Bool)
    (h : find s.files id = none) :
    (step L s (.get id)).2.status = .notFound ∧ (step L s (.contents id c)).2 = ⟨.error, .none⟩ ∧
    (step L s (.validate id o)).2.status = .badRequest ∧ (step L s (.build id)).2.status = .error ∧
    (step L s (.flatten id)).2.status = .notFound ∧ (step L s (.segment id)).2.status = .notFound ∧
    (step L s (.addBatch id b)).2.status = .notFound ∧ (step L s (.getBatch id bid)).2.status = .notFound ∧
    (step L s (.batches id)).2 = ⟨.ok, .batches none⟩ ∧ (step L s (.delBatch id bid)).2.status = .error ∧
    (step L s (.delete id)).2.status = .ok := by
  simp [step, getFile, getFileContents, validateFile, buildFile, flattenBatches, segmentFileID, createBatch, getBatch,
    getBatches, deleteBatch, deleteFile, h]

/-- **status deviation**: no request is ever answered 201 or 409 (a create is 200, a duplicate 400) -/
theorem status_never_created_conflict (L : Lib F T) (s : State F) (r : Req) :
    (step L s r).2.status ≠ .created ∧ (step L s r).2.status ≠ .conflict := by
  cases r <;>
    dsimp only [step, createFile, getFile, getFiles, deleteFile, getFileContents, validateFile, buildFile,
      flattenBatches, segmentFileID, segmentFile, storeSegments, createBatch, getBatch, getBatches, deleteBatch] <;>
    (repeat' split) <;> exact ⟨Status.noConfusion, Status.noConfusion⟩

/-- a stored file is altered only by a request whose `writes` names its key — requests addressed to another ID, all
creates, and `POST /segment` leave it exactly as it is -/
theorem server_key_isolation (L : Lib F T) (s : State F) (r : Req) (k : Id) (f : F)
    (hk : find s.files k = some f) (hw : r.writes ≠ some k) : find (step L s r).1.files k = some f := by
  rw [find_step]; exact (spec_frame L (abs s) r).1 k f hk hw

theorem server_key_isolation_run (L : Lib F T) (s : State F) (reqs : List Req) (k : Id) (f : F)
    (hk : find s.files k = some f) (hw : ∀ r ∈ reqs, r.writes ≠ some k) :
    find (run L s reqs).1.files k = some f :=
  run_induct L (fun s => find s.files k = some f) reqs (fun s r hr hk => server_key_isolation L s r k f hk (hw r hr))
    s hk

/-- requests may only *add* keys that are generated IDs — except a create, which adds the ID it answers -/
theorem server_inserts_only_fresh (L : Lib F T) (s : State F) (r : Req) (k : Id)
    (hk : find s.files k = none) (h' : find (step L s r).1.files k ≠ none) :
    (∃ p j b o, r = .create p j b o ∧ k = (decodeCreate L s.next p j b o).id) ∨
    k = L.freshId s.next ∨ k = L.freshId (s.next + 1) := by
  rw [find_step] at h'; exact (spec_frame L (abs s) r).2 k hk h'

/-- clause "returned unchanged", at full length: if the library's in-place calls are the identity on the stored
file (`Stable`; for `Create` this is C05), then over any requests that are not the API's own edits of that key
(`DELETE`, add / delete batch) the file stays stored unchanged … -/
theorem stored_file_stable (L : Lib F T) (s : State F) (reqs : List Req) (k : Id) (f : F)
    (hk : find s.files k = some f) (hs : Stable L f) (he : ∀ r ∈ reqs, r.edits ≠ some k) :
    find (run L s reqs).1.files k = some f := by
  refine run_induct L (fun s => find s.files k = some f) reqs (fun s r hr hk => ?_) s hk
  -- the four requests that write `k` without editing it put back the library's output, which is `f` again
  have hwb := read_requests_write_back L s k
  by_cases hw : r.writes = some k
  · cases r with
    | contents id c => cases Option.some.inj hw; rw [(hwb c f hk).1, hs.1]
    | build id => cases Option.some.inj hw; rw [(hwb true f hk).2.1, hs.1]
    | flatten id => cases Option.some.inj hw; rw [(hwb true f hk).2.2.1, hs.1, hs.2.1, ite_self]
    | segment id => cases Option.some.inj hw; rw [(hwb true f hk).2.2.2, svcSegment_of_stable hs]
    | delete id | addBatch id b | delBatch id bid => exact absurd hw (he _ hr)
    | _ => cases hw
  · exact server_key_isolation L s r k f hk hw

/-- … so a `GET` at the end of such a sequence started by a successful create returns the created file -/
theorem get_after_create_run (L : Lib F T) (s : State F) (path : Option Id) (json : Bool) (body : Tok) (opts : Opts)
    (id : Id) (f : F) (reqs : List Req) (h : (step L s (.create path json body opts)).2 = ⟨.ok, .idFile id f⟩)
    (hs : Stable L f) (he : ∀ r ∈ reqs, r.edits ≠ some id) :
    (step L (run L (step L s (.create path json body opts)).1 reqs).1 (.get id)).2 = ⟨.ok, .file f⟩ := by
  rw [get_returns_stored, stored_file_stable L _ reqs id f (create_ok_stored h) hs he]

/-- a valid, tabulated token file is `Stable` for `tokLib`: the hypotheses of `stored_file_stable` are satisfiable -/
example : Stable tokLib ⟨3, some 1, true, true, 0, [0]⟩ := ⟨rfl, rfl, rfl⟩

def f1 : TFile := ⟨3, some 1, true, false, 0, [0]⟩
def f1t : TFile := { f1 with tab := true }

/-- a non-trivial run (driver lines `create 1 3 1 1`, `build 1`, `contents 1 1`, `flatten 1`, `segment 1`,
`create 2 6 1 1`, `delete 2`, `get 2`, `create 1 5 1 1`, `get 1`): every clause but validate and the batch endpoints fires
at least once -/
example :
    (run tokLib init [.create (some 1) false (mkBody 3 true true) 0, .build 1, .contents 1 true, .flatten 1,
        .segment 1, .create (some 2) false (mkBody 6 true true) 0, .delete 2, .get 2,
        .create (some 1) false (mkBody 5 true true) 0, .get 1]).2 =
      [⟨.ok, .idFile 1 f1⟩, ⟨.ok, .file f1t⟩, ⟨.ok, .text (f1t, true)⟩,
       ⟨.ok, .idFile 100 { f1t with id := some 100, kind := 1 }⟩,
       ⟨.ok, .seg (some (101, { f1t with id := some 101, kind := 2 })) (some (102, { f1t with id := some 102, kind := 3 }))⟩,
       ⟨.ok, .idFile 2 ⟨6, some 2, true, false, 0, [0]⟩⟩, ⟨.ok, .none⟩, ⟨.notFound, .none⟩,
       ⟨.badRequest, .idFile 1 ⟨5, some 1, true, false, 0, [0]⟩⟩, ⟨.ok, .file f1t⟩] := by decide +kernel

/-- **counterexample** to "GET returns what was created" without `Stable`: in `tokLib`, `Create` sets `tab`, so the
file `GET` returns after `build` differs from the one returned before -/
theorem build_changes_get_counterexample :
    (step tokLib (step tokLib init (.create (some 1) false (mkBody 3 true true) 0)).1 (.get 1)).2 ≠
    (step tokLib (step tokLib (step tokLib init (.create (some 1) false (mkBody 3 true true) 0)).1 (.build 1)).1
      (.get 1)).2 := by decide +kernel

/-- **counterexample** to "an error answer means nothing was stored" (driver lines `create 2 6 0 0`, `get 2`): a body
that fails to parse is answered with the error and then served by `GET` -/
theorem rejected_create_is_served_counterexample :
    (run tokLib init [.create (some 2) false (mkBody 6 false false) 0, .get 2]).2 =
      [⟨.libErr, .idFile 2 ⟨6, some 2, false, false, 0, []⟩⟩, ⟨.ok, .file ⟨6, some 2, false, false, 0, []⟩⟩] := by
  decide +kernel

end Ach.Props.C17
