import Ach.Props.AcceptedIAT
/-!
# Every entry of an accepted IAT batch passed `IATEntryDetail.Validate` (C03)
-/

namespace Ach.Props.AcceptedIATEntries
open Ach Ach.GoLite Ach.Gen

/-- today `IATBatch.isFieldInclusion` validates the header, then walks the entries — the loop body begins with
`entry.Validate()` — then validates the control and returns nil -/
theorem iat_field_inclusion_outline :
    (stmts v_IATBatch_isFieldInclusion).length = 4 ∧
    (stmts v_IATBatch_isFieldInclusion).dropLast.all (fun q => rejectOnly q && calm q) = true ∧
    ∃ rest, calm rest = true ∧
      (stmts v_IATBatch_isFieldInclusion)[1]? =
        some (.forEach "entry" (.fld "Entries") (.seq (.checkOn none (.var "entry") [] [] v_IATEntryDetail_Validate) rest)) :=
  ⟨by decide +kernel, by decide +kernel, _, by decide +kernel, rfl⟩

/-- C03, IAT — for every IAT batch value, of any size: if `IATBatch.verify()` (translated from the source on this run)
returns nil, then `IATEntryDetail.Validate()` returned nil for **every** entry -/
theorem accepted_iat_batch_entries_validated (c : Ctx) (p : String) (n : Nat)
    (hE : lookup c.fields (joinPath c.recv "Entries") = .lst p n)
    (ha : run c v_IATBatch_verify = .accept) :
    ∀ i, i < n → run { c with recv := elemPath p i } v_IATEntryDetail_Validate = .accept := by
  obtain ⟨hlen, hall, rest, hcalm, hq⟩ := iat_field_inclusion_outline
  obtain ⟨pre, hloop⟩ := accept_passes_nth (calm_of_all (fun _ h => h) hall) hq (by rw [hlen]; decide)
    (run_passes_check Ach.Props.AcceptedIAT.iat_verify_statements.2 ha (k := 1) rfl)
  exact fun i hi => run_accept.mpr (forEach_calls_pass hcalm hloop hE i hi)

/-- C03, IAT — … and so every entry's check digit is the one computed from its routing number -/
theorem accepted_iat_batch_every_check_digit (c : Ctx) (p : String) (n : Nat) (rdfi cd : Nat → Str)
    (hE : lookup c.fields (joinPath c.recv "Entries") = .lst p n)
    (hr : ∀ i, i < n → lookup c.fields (joinPath (elemPath p i) "RDFIIdentification") = .str (rdfi i))
    (hc : ∀ i, i < n → lookup c.fields (joinPath (elemPath p i) "CheckDigit") = .str (cd i))
    (ha : run c v_IATBatch_verify = .accept) :
    ∀ i, i < n → atoi (cd i) = some (calculateCheckDigit (stringField (rdfi i) 8)) := by
  intro i hi
  exact Ach.Props.AcceptedIAT.accepted_iat_entry_check_digit { c with recv := elemPath p i } (rdfi i) (cd i) (hr i hi) (hc i hi)
    (accepted_iat_batch_entries_validated c p n hE ha i hi)

end Ach.Props.AcceptedIATEntries
