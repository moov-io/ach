import Ach.Proofs.Repo
import Ach.Generated.Locks
/-!
# C18 — the file repository is linearizable under concurrent clients

Model: `Ach.Model.Repo` (sequential specification `specStep`; concurrent LTS of any number of threads over one RW
lock, every method split into the shared accesses of its Go body).  All theorems are for **every** number of
threads, every program and every interleaving (induction over runs; no bounds).

* `lock_discipline_from_source` (F) — the lock kinds read off server/repository.go today satisfy `LockDiscipline`;
  `read_locked_store_counterexample` shows the hypothesis is needed.
* `repo_lock_invariant` — in every reachable state the holders of the lock are exactly the threads inside a critical
  section of the matching kind, and a writer excludes every other holder.
* `repo_no_conflicting_access` — no reachable state has two threads before conflicting accesses.
* `repo_refines_atomic` — forward simulation onto the atomic map; `repo_linearizable` — for complete runs the order of
  linearization points is a permutation of the calls that replays on `specStep` with exactly the returned results;
  `repo_realtime_order` — that order respects real-time precedence (each linearization point lies between the call
  and the return).
* `second_store_fails`, `find_after_delete_fails`, `list_is_stored_set`, `batch_found_between` — the four sequential
  clauses, on `specStep`.

Tie to the code: `Ach.Gen.repoMethods` (lock call, deferred unlock, accesses before the lock — regenerated from the
source on every check) and the `repo` correspondence stream (`Ach.Repo.runOps`: `specStep`, and with the `micro`
prefix the micro-steps, against the real repository on the same call sequences).

Trusted / modelled, not verified: the contract of `sync.RWMutex` stated in `Ach.Model.Repo` (no writer preference,
fairness or starvation); `defer` running the unlock after the last access; sequentially consistent memory, i.e. the
Go memory model is not exhibited — "no race" is proved as "no two enabled conflicting accesses" in the model; the
heap as a value map (a `*ach.File` is its id), which hides that `FindFile`/`FindBatch`/`FindAll*` hand out pointers
into the repository that callers may read or write after the lock is released; the ticker goroutine of
`NewRepositoryInMemory` (its body `cleanupOldFiles` is the writer op `sweep`, its timing is not modelled);
`StoreFile(nil)`.
-/
namespace Ach.Props.C18
open Ach.Repo

/-- the lock each method takes, as extracted from the Go source -/
def srcKind : Method → LockKind := kindFrom Ach.Gen.repoMethods

/-- **F**: the source today: writers under `Lock`/`defer Unlock`, readers under `RLock`/`defer RUnlock`, nothing
before the lock.  Changing a `Lock()` to `RLock()`, dropping a lock or a `defer`, or touching `r.files` before the
lock breaks this proof. -/
theorem lock_discipline_from_source : LockDiscipline srcKind := ld_of_check (by decide +kernel)

/-- **F**: the model does not miss anything the extractor saw: every method of the table is a method of the model,
touches the map, and is a writer in the model whenever the extractor saw a write.  (The converse fails for
`DeleteBatch`: the table says `writesShared := false` although the body assigns `file.Batches` through the pointer
read from the map; the model counts it as a writer.) -/
theorem facts_agree_with_model :
    (Ach.Gen.repoMethods.all fun f => Method.all.any fun m => m.goName == f.method) = true ∧
    (Method.all.all fun m => match Ach.Gen.repoMethods.find? (fun f => f.method = m.goName) with
      | some f => f.touchesShared && !f.accessBeforeLock && (!f.writesShared || m.writes)
      | none => false) = true := by decide +kernel

/-- **F**: the bodies of the nine repository methods are the ones the sequential model (`specStep` / `microRun`: store
appends, find and delete go by ID) was written from.  The lock census above cannot see a change of *what* a method
does under its lock — e.g. `DeleteBatch` removing return batches by content instead of by ID (seed C18-j); this pin
sends such an edit to the oracle's search. -/
theorem repo_methods_as_modelled :
    Ach.Gen.repoMethods.map (fun f => (f.method, f.hash)) = [
      ("DeleteBatch", 257065001440626611), ("DeleteFile", 10664202471910957164),
      ("FindAllBatches", 4695842734299230670), ("FindAllFiles", 5390125899727251336),
      ("FindBatch", 751639383380015541), ("FindFile", 14180771047204466752),
      ("StoreBatch", 10369522212633806333), ("StoreFile", 5238297674936942396),
      ("cleanupOldFiles", 5924950020328261761)] := rfl

/-- for any lock kinds: holders = threads inside a section of that kind; readers are not counted twice; a writer
excludes all other holders -/
theorem repo_lock_invariant {kind : Method → LockKind} {progs : Nat → List Op} {s : State}
    (h : Reachable kind progs s) :
    LockInv kind s ∧
    ∀ t u, s.lock.writer = some t → (s.threads u).holds = true → (s.threads u).kind kind ≠ .none → u = t := by
  obtain ⟨tr, hr⟩ := h
  exact ⟨run_lockInv hr, fun _ _ => writer_excludes (run_lockInv hr)⟩

/-- "no operation races with another", at the level of the model -/
theorem repo_no_conflicting_access {kind : Method → LockKind} (ld : LockDiscipline kind) {progs : Nat → List Op}
    {s : State} (h : Reachable kind progs s) : ¬ Conflict s := by
  obtain ⟨tr, hr⟩ := h
  exact no_conflict ld (run_lockInv hr)

/-- forward simulation from the concurrent LTS to the atomic object (abstract state = the memory): only linearization
points (`acc op (some r)`, the access that completes the body) change it, and each is one `specStep` whose result is
the one the thread goes on to return -/
theorem repo_refines_atomic {kind : Method → LockKind} (ld : LockDiscipline kind) {progs : Nat → List Op}
    {s s' : State} {l : Label} (h : Reachable kind progs s) (hs : Step kind s l s') :
    (∀ op r, l.2 = .acc op (some r) → (s'.mem, r) = specStep s.mem op) ∧
    ((∀ op r, l.2 ≠ .acc op (some r)) → s'.mem = s.mem) := by
  obtain ⟨tr, hr⟩ := h
  exact step_sim (run_simInv ld hr) hs

/-- **linearizability of complete runs**: when all threads have finished, the linearization points in trace order
(`linAll tr`) are a permutation of all calls — thread `t`'s share of it is `t`'s program in program order —, each call
returned the result recorded at its linearization point, and the sequential specification, started on the empty
repository and fed the calls in that order, produces exactly these results and ends in the final memory -/
theorem repo_linearizable {kind : Method → LockKind} (ld : LockDiscipline kind) {progs : Nat → List Op}
    {tr : List Label} {s : State} (h : Run kind (init progs) tr s) (hc : Complete s) :
    (∀ t, ((linAll tr).filterMap (fun x => if x.1 = t then some x.2 else none)).map (·.1) = progs t) ∧
    (∀ t, rets t tr = (linAll tr).filterMap (fun x => if x.1 = t then some x.2 else none)) ∧
    (∀ t, calls t tr = progs t) ∧
    replay [] (linAll tr) = some s.mem := by
  have hh := run_hist ld h
  refine ⟨fun t => ?_, fun t => ?_, fun t => (complete_hist hh hc t).1, hh.replay⟩
  · rw [← lins_eq_linAll]; exact (complete_hist hh hc t).2.1
  · rw [← lins_eq_linAll]; exact (complete_hist hh hc t).2.2

/-- **the linearization order respects real time**.  At every point of a run (`p` = the trace so far) and for every
thread, #returns ≤ #linearization points ≤ #calls: the k-th linearization point of a thread lies between its k-th
call and its k-th return.  Hence if call no. `k` of `t` has returned within `p` and call no. `j` of `u` has not yet
been issued within `p`, the former's linearization point is in `p` and the latter's is not, i.e. it comes later in
`linAll (p ++ q) = linAll p ++ linAll q`. -/
theorem repo_realtime_order {kind : Method → LockKind} (ld : LockDiscipline kind) {progs : Nat → List Op}
    {p q : List Label} {s : State} (h : Run kind (init progs) (p ++ q) s) :
    (∀ t, (rets t p).length ≤ (lins t p).length ∧ (lins t p).length ≤ (calls t p).length) ∧
    (∀ t u k j, k < (rets t p).length → (calls u p).length ≤ j → k < (lins t p).length ∧ (lins u p).length ≤ j) ∧
    linAll (p ++ q) = linAll p ++ linAll q := by
  obtain ⟨mid, hm⟩ := h.prefix p q rfl
  have hc := fun t => hist_counts ((run_hist ld hm).thread t)
  exact ⟨hc, fun t u k j hk hj => ⟨Nat.lt_of_lt_of_le hk (hc t).1, Nat.le_trans (hc u).2 hj⟩, linAll_append p q⟩

/-- a second store of an existing id fails and leaves the first file in place -/
theorem second_store_fails (s : Spec) (id tok tok' : Nat) :
    (∀ f, get id s = some f → specStep s (.storeFile id tok') = (s, .exists)) ∧
    ((specStep s (.storeFile id tok)).2 = .ok →
      specStep (specStep s (.storeFile id tok)).1 (.storeFile id tok') = ((specStep s (.storeFile id tok)).1, .exists) ∧
      get id (specStep s (.storeFile id tok)).1 = some ⟨tok, []⟩) := by
  constructor
  · intro f hf; simp [specStep, hf]
  · cases hg : get id s <;> simp [specStep, hg]

/-- a find after a completed delete fails -/
theorem find_after_delete_fails (s : Spec) (id : Nat) :
    (specStep s (.deleteFile id)).2 = .ok ∧
    specStep (specStep s (.deleteFile id)).1 (.findFile id) = ((specStep s (.deleteFile id)).1, .notFound) := by
  simp [specStep]

/-- listing returns exactly the stored set (each stored id once, in id order) and changes nothing -/
theorem list_is_stored_set (s : Spec) (h : WF s) :
    specStep s .findAllFiles = (s, .files (listing s)) ∧
    (∀ id tok, (id, tok) ∈ listing s ↔ ∃ bs, get id s = some ⟨tok, bs⟩) ∧
    (listing s).Pairwise (fun a b => a.1 < b.1) := by
  refine ⟨rfl, fun id tok => ?_, ?_⟩
  · simp only [listing, List.mem_map, Prod.mk.injEq]
    constructor
    · rintro ⟨⟨i, f⟩, hm, rfl, rfl⟩; exact ⟨f.batches, (mem_iff_get h.1 _ _).1 hm⟩
    · rintro ⟨bs, hg⟩; exact ⟨(id, ⟨tok, bs⟩), (mem_iff_get h.1 _ _).2 hg, rfl, rfl⟩
  · exact List.pairwise_map.2 h.1

/-- well-formedness holds of the empty repository and is kept by every call -/
theorem wf_reachable (ops : List Op) : WF (ops.foldl (fun s op => (specStep s op).1) []) := by
  suffices ∀ s, WF s → WF (ops.foldl (fun s op => (specStep s op).1) s) from this _ wf_nil
  induction ops with
  | nil => exact fun s h => h
  | cons op ops ih => exact fun s h => ih _ (specStep_wf op h)

/-- a batch is found in a file exactly between its store and its delete: found right after a successful
`StoreBatch`, not found right after a successful `DeleteBatch`, and no call other than `StoreBatch`/`DeleteBatch`
of that batch, `DeleteFile` of that file or the sweeper changes whether it is found -/
theorem batch_found_between (s : Spec) (id b : Nat) :
    ((specStep s (.storeBatch id b)).2 = .ok →
      (specStep (specStep s (.storeBatch id b)).1 (.findBatch id b)).2 = .batch b) ∧
    (WF s → (specStep s (.deleteBatch id b)).2 = .ok →
      (specStep (specStep s (.deleteBatch id b)).1 (.findBatch id b)).2 = .notFound) ∧
    (∀ op, touchesBatch id b op = false →
      (specStep (specStep s op).1 (.findBatch id b)).2 = (specStep s (.findBatch id b)).2) := by
  refine ⟨?_, ?_, fun op h => by simp only [findBatch_eq, mem_batchesOf_frame s h]⟩
  · cases hg : get id s with
    | none => simp [specStep, hg]
    | some f => by_cases hb : b ∈ f.batches <;> simp [specStep, hg, hb]
  · intro hwf
    cases hg : get id s with
    | none => simp [specStep, hg]
    | some f =>
      cases hl : lastIdx b f.batches with
      | none => simp [specStep, hg, hl]
      | some i => simp [specStep, hg, hl, not_mem_eraseIdx (hwf.2 id f hg) hl]

/-- run alone, the micro-steps of a body are the atomic step (also exercised by the `micro` lines of the driver) -/
theorem micro_steps_are_atomic (m : Spec) (op : Op) : microRun m op = specStep m op := by
  fun_cases specStep m op <;> simp [microRun, micro, batchesOf, modBatches, *]

/-- `StoreFile` under `RLock` instead of `Lock`, everything else as in the source -/
def badKind (m : Method) : LockKind := if m = .storeFile then .read else srcKind m

def twoStores (t : Nat) : List Op := if t = 0 then [.storeFile 1 7] else if t = 1 then [.storeFile 1 8] else []

/-- with `StoreFile` under the read lock the discipline fails, a state with a write of `r.files[1]` enabled beside a
read of it is reachable, and further on both stores of the same id have succeeded -/
theorem read_locked_store_counterexample :
    ¬ LockDiscipline badKind ∧
    (∃ s, Reachable badKind twoStores s ∧ Conflict s) ∧
    (∃ s, Reachable badKind twoStores s ∧
      (s.threads 0).pc = .leaving .ok ∧ (s.threads 1).pc = .leaving .ok ∧ s.mem = [(1, ⟨8, []⟩)]) := by
  refine ⟨fun h => ?_, ⟨exec badKind (init twoStores) [0, 0, 1, 1, 0], exec_reachable _ ⟨[], .nil⟩, ?_⟩,
    ⟨exec badKind (init twoStores) [0, 0, 1, 1, 0, 1, 0, 1], exec_reachable _ ⟨[], .nil⟩, ?_⟩⟩
  · have := (h .storeFile).2 rfl; revert this; decide
  · exact conflict_of_conflictB (t := 0) (u := 1) (by decide +kernel)
  · decide +kernel

/-- non-vacuity: under the source's lock kinds two clients storing the same id have a complete run (the second
waits for the lock, then fails), so `repo_linearizable` speaks about something -/
example : ∃ tr s, Run srcKind (init twoStores) tr s ∧ Complete s ∧ s.mem = [(1, ⟨7, []⟩)] := by
  generalize hs : exec srcKind (init twoStores) [0, 1, 0, 0, 0, 0, 0, 1, 1, 1, 1] = s
  -- one evaluation of the schedule serves both threads and the memory
  have h : s.threads 0 = ⟨[], .idle⟩ ∧ s.threads 1 = ⟨[], .idle⟩ ∧ s.mem = [(1, ⟨7, []⟩)] := by
    subst hs; decide +kernel
  obtain ⟨tr, hr⟩ : Reachable srcKind twoStores s := hs ▸ exec_reachable _ ⟨[], .nil⟩
  refine ⟨tr, s, hr, fun t => ?_, h.2.2⟩
  by_cases h0 : t = 0
  · exact h0 ▸ h.1
  · by_cases h1 : t = 1
    · exact h1 ▸ h.2.1
    · rw [← hs, exec_other _ _ _ _ (by simp [h0, h1])]; simp [init, twoStores, h0, h1]

end Ach.Props.C18
