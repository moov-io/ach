import Ach.Props.AcceptedFileBatches
import Ach.Props.AcceptedCount
/-!
# Non-vacuity of the accepted-file theorems: a concrete file that the translated `File.ValidateWith` accepts

The file below is one of the generator files the `filevalidate` stream compared with the real `File.ValidateWith` (one CCD
batch, no options); it is written out here once, as a witness that the hypotheses of `accepted_file_batches_verified` are
satisfiable (`sample_meets_hypotheses`).  Those of `accepted_file_control_sums` it does not meet: its `IATBatches` slice is
nil, where `Ach.Props.AcceptedFile.Batches` asks for a stored slice.  It is a test, not a theorem about all files.
-/
namespace Ach.Props.AcceptedSample
open Ach Ach.GoLite Ach.Gen

def fields0 : List (String × Val) := [
  ("ID", .str "f56b2".toList),
  ("Header", .ref "Header"),
  ("Header.ID", .str "fh1".toList),
  ("Header.priorityCode", .str "01".toList),
  ("Header.ImmediateDestination", .str "306627446".toList),
  ("Header.ImmediateOrigin", .str "317512854".toList),
  ("Header.FileCreationDate", .str "481117".toList),
  ("Header.FileCreationTime", .str "1109".toList),
  ("Header.FileIDModifier", .str "6".toList),
  ("Header.recordSize", .str "094".toList),
  ("Header.blockingFactor", .str "10".toList),
  ("Header.formatCode", .str "1".toList),
  ("Header.ImmediateDestinationName", .str "Federal Reserve Bank".toList),
  ("Header.ImmediateOriginName", .str "".toList),
  ("Header.ReferenceCode", .str "".toList),
  ("Header.LineNumber", .int 0),
  ("Batches", .lst "Batches" 1),
  ("Batches[0].$type", .str "BatchCCD".toList),
  ("Batches[0].id", .str "b1".toList),
  ("Batches[0].Header", .ref "Batches[0].Header"),
  ("Batches[0].Header.ID", .str "b1".toList),
  ("Batches[0].Header.ServiceClassCode", .int 200),
  ("Batches[0].Header.CompanyName", .str "Payee Name".toList),
  ("Batches[0].Header.CompanyDiscretionaryData", .str "".toList),
  ("Batches[0].Header.CompanyIdentification", .str "535832157".toList)
]

def fields1 : List (String × Val) := [
  ("Batches[0].Header.StandardEntryClassCode", .str "CCD".toList),
  ("Batches[0].Header.CompanyEntryDescription", .str "F8Obiu".toList),
  ("Batches[0].Header.CompanyDescriptiveDate", .str "321010".toList),
  ("Batches[0].Header.EffectiveEntryDate", .str "920612".toList),
  ("Batches[0].Header.SettlementDate", .str "".toList),
  ("Batches[0].Header.OriginatorStatusCode", .int 1),
  ("Batches[0].Header.ODFIIdentification", .str "10380340".toList),
  ("Batches[0].Header.BatchNumber", .int 1),
  ("Batches[0].Header.LineNumber", .int 0),
  ("Batches[0].Entries", .lst "Batches[0].Entries" 1),
  ("Batches[0].Entries[0].ID", .str "b1e1".toList),
  ("Batches[0].Entries[0].TransactionCode", .int 47),
  ("Batches[0].Entries[0].RDFIIdentification", .str "25607041".toList),
  ("Batches[0].Entries[0].CheckDigit", .str "5".toList),
  ("Batches[0].Entries[0].DFIAccountNumber", .str "H".toList),
  ("Batches[0].Entries[0].Amount", .int 696796),
  ("Batches[0].Entries[0].IdentificationNumber", .str "VJ".toList),
  ("Batches[0].Entries[0].IndividualName", .str "Ln".toList),
  ("Batches[0].Entries[0].DiscretionaryData", .str "".toList),
  ("Batches[0].Entries[0].AddendaRecordIndicator", .int 0),
  ("Batches[0].Entries[0].TraceNumber", .str "103803400000001".toList),
  ("Batches[0].Entries[0].Addenda02", .nilp),
  ("Batches[0].Entries[0].Addenda05", .nilp),
  ("Batches[0].Entries[0].Addenda98", .nilp),
  ("Batches[0].Entries[0].Addenda98Refused", .nilp)
]

def fields2 : List (String × Val) := [
  ("Batches[0].Entries[0].Addenda99", .nilp),
  ("Batches[0].Entries[0].Addenda99Contested", .nilp),
  ("Batches[0].Entries[0].Addenda99Dishonored", .nilp),
  ("Batches[0].Entries[0].Category", .str "Forward".toList),
  ("Batches[0].Entries[0].LineNumber", .int 0),
  ("Batches[0].Control", .ref "Batches[0].Control"),
  ("Batches[0].Control.ID", .str "".toList),
  ("Batches[0].Control.ServiceClassCode", .int 200),
  ("Batches[0].Control.EntryAddendaCount", .int 1),
  ("Batches[0].Control.EntryHash", .int 25607041),
  ("Batches[0].Control.TotalDebitEntryDollarAmount", .int 696796),
  ("Batches[0].Control.TotalCreditEntryDollarAmount", .int 0),
  ("Batches[0].Control.CompanyIdentification", .str "535832157".toList),
  ("Batches[0].Control.MessageAuthenticationCode", .str "".toList),
  ("Batches[0].Control.ODFIIdentification", .str "10380340".toList),
  ("Batches[0].Control.BatchNumber", .int 1),
  ("Batches[0].Control.LineNumber", .int 0),
  ("Batches[0].ADVEntries", .nilp),
  ("Batches[0].ADVControl", .nilp),
  ("Batches[0].category", .str "Forward".toList),
  ("IATBatches", .nilp),
  ("Control", .ref "Control"),
  ("Control.ID", .str "f56b2".toList),
  ("Control.BatchCount", .int 1),
  ("Control.BlockCount", .int 1)
]

def fields3 : List (String × Val) := [
  ("Control.EntryAddendaCount", .int 1),
  ("Control.EntryHash", .int 25607041),
  ("Control.TotalDebitEntryDollarAmountInFile", .int 696796),
  ("Control.TotalCreditEntryDollarAmountInFile", .int 0),
  ("Control.LineNumber", .int 0),
  ("ADVControl", .ref "ADVControl"),
  ("ADVControl.ID", .str "".toList),
  ("ADVControl.BatchCount", .int 0),
  ("ADVControl.BlockCount", .int 0),
  ("ADVControl.EntryAddendaCount", .int 0),
  ("ADVControl.EntryHash", .int 0),
  ("ADVControl.TotalDebitEntryDollarAmountInFile", .int 0),
  ("ADVControl.TotalCreditEntryDollarAmountInFile", .int 0),
  ("ADVControl.LineNumber", .int 0),
  ("NotificationOfChange", .nilp),
  ("ReturnEntries", .nilp)
]

def sampleFile : Ctx where
  fields := fields0 ++ fields1 ++ fields2 ++ fields3
  recvFlags := []
  paramFlags := []
  ext := []

/-- the sample file with its one batch as the receiver (`Ach.Props.C03CodeSample.sampleStd` describes that batch) -/
def _root_.Ach.Props.C03CodeSample.bctx : Ctx := { sampleFile with recv := "Batches[0]" }

open Ach.Props.C03CodeSample (bctx)

/-- everything that is claimed of the sample file by evaluation, in ONE evaluation (the kernel remembers what it has
reduced, so the lines after the first cost next to nothing; proved one by one, each walks the store again and turns its
keys into bytes again): the translated `File.ValidateWith` accepts it, `File.IsADV` answers false, the three things
`sample_meets_hypotheses` reads off the store, and what `Ach.Props.C03CodeSample.sampleStd` reads of its batch -/
theorem sample_file_evaluated :
    (run sampleFile v_File_ValidateWith = .accept ∧
      (exec v_File_IsADV sampleFile []).2 = .ret (.bool false) ∧
      lookup sampleFile.fields (joinPath sampleFile.recv "Batches") = .lst "Batches" 1 ∧
      hasFlag sampleFile "param" "SkipAll" = false ∧
      lookup sampleFile.fields (joinPath (elemPath "Batches" 0) "$type") = .str "BatchCCD".toList) ∧
    (lookup bctx.fields (joinPath bctx.recv "Header") = .ref "Batches[0].Header" ∧
      lookup bctx.fields (joinPath bctx.recv "Control") = .ref "Batches[0].Control" ∧
      lookup bctx.fields (joinPath bctx.recv "Entries") = .lst "Batches[0].Entries" 1 ∧
      lookup bctx.fields (joinPath "Batches[0].Header" "StandardEntryClassCode") = .str "CCD".toList ∧
      @Ne Str "CCD".toList ['A', 'D', 'V']) ∧
    (lookup bctx.fields (joinPath "Batches[0].Header" "ServiceClassCode") = .int 200 ∧
      lookup bctx.fields (joinPath "Batches[0].Control" "ServiceClassCode") = .int 200 ∧
      lookup bctx.fields (joinPath "Batches[0].Header" "CompanyIdentification") = .str "535832157".toList ∧
      lookup bctx.fields (joinPath "Batches[0].Control" "CompanyIdentification") = .str "535832157".toList ∧
      lookup bctx.fields (joinPath "Batches[0].Header" "ODFIIdentification") = .str "10380340".toList ∧
      lookup bctx.fields (joinPath "Batches[0].Control" "ODFIIdentification") = .str "10380340".toList ∧
      lookup bctx.fields (joinPath "Batches[0].Header" "BatchNumber") = .int 1 ∧
      lookup bctx.fields (joinPath "Batches[0].Control" "BatchNumber") = .int 1) ∧
    (lookup bctx.fields (joinPath "Batches[0].Control" "EntryAddendaCount") = .int 1 ∧
      lookup bctx.fields (joinPath "Batches[0].Control" "EntryHash") = .int 25607041 ∧
      lookup bctx.fields (joinPath "Batches[0].Control" "TotalCreditEntryDollarAmount") = .int 0 ∧
      lookup bctx.fields (joinPath "Batches[0].Control" "TotalDebitEntryDollarAmount") = .int 696796) ∧
    (∀ i, i < 1 → lookup bctx.fields (joinPath (elemPath "Batches[0].Entries" i) "RDFIIdentification") = .str "25607041".toList) ∧
    (∀ i, i < 1 → lookup bctx.fields (joinPath (elemPath "Batches[0].Entries" i) "CheckDigit") = .str "5".toList) ∧
    (∀ i, i < 1 → lookup bctx.fields (joinPath (elemPath "Batches[0].Entries" i) "TraceNumber") = .str "103803400000001".toList) ∧
    (∀ i, i < 1 → lookup bctx.fields (joinPath (elemPath "Batches[0].Entries" i) "TransactionCode") = .int 47) ∧
    (∀ i, i < 1 → lookup bctx.fields (joinPath (elemPath "Batches[0].Entries" i) "Amount") = .int 696796) ∧
    (∀ i, i < 1 → Ach.Props.AcceptedCount.addendaCountOf bctx (elemPath "Batches[0].Entries" i) = some 0) ∧
    (∀ i, i < 1 → allAscii "25607041".toList = true) := by
  decide +kernel

/-- non-vacuity: the kernel evaluates the translated `File.ValidateWith` on the sample file to `accept` -/
theorem sample_file_accepted : run sampleFile v_File_ValidateWith = .accept := sample_file_evaluated.1.1
theorem sample_file_not_adv : (exec v_File_IsADV sampleFile []).2 = .ret (.bool false) := sample_file_evaluated.1.2.1

/-- the hypotheses of `accepted_file_batches_verified` hold of the sample file together: the theorem applies -/
theorem sample_meets_hypotheses : run { sampleFile with recv := "Batches[0]" } v_Batch_verify = .accept :=
  Ach.Props.AcceptedFileBatches.accepted_file_batches_verified sampleFile "Batches" 1 sample_file_evaluated.1.2.2.1
    sample_file_evaluated.1.2.2.2.1 sample_file_not_adv sample_file_accepted 0 (by omega) "BatchCCD" sample_file_evaluated.1.2.2.2.2
    (by decide)

theorem sample_batch_verified : run { sampleFile with recv := "Batches[0]" } v_Batch_verify = .accept :=
  sample_meets_hypotheses

end Ach.Props.AcceptedSample
