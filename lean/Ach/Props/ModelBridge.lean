import Ach.Props.AcceptedAmounts
import Ach.Model.Validate
import Ach.Props.AcceptedHash
import Ach.Proofs.SumBy
/-!
# The hand-written validation model computes what the translated code computes

`Ach.Model.Validate` (`batchHash`, `creditTotal`, `debitTotal`: used by C03's `validate_sound_batch`, by the `Create`
model of C05 for the control it tabulates, and by C04) was written by hand from batch.go.  Here its three sums are shown
to be the values the functions `Batch.calculateEntryHash` and `Batch.calculateBatchAmounts` return **as translated from
the source on this run**, for every entry list stored in a context (the hash for ASCII routing numbers only: `aba8`
slices bytes, the model runes).
-/
namespace Ach.Props.ModelBridge
open Ach Ach.GoLite Ach.Gen

theorem sumBy_eq_sum {α} (f : α → Int) (l : List α) : sumBy f l = (l.map f).sum :=
  sumBy_eq_map_sum f l

theorem map_range_getD {α β} (l : List α) (d : α) (g : α → β) :
    (List.range l.length).map (fun i => g (l.getD i d)) = l.map g := by
  apply List.ext_getElem
  · simp
  · intro i h1 h2
    simp at h1
    simp [List.getD, h1]

instance : Inhabited VEntry := ⟨⟨0, [], [], 0, [], 0, true⟩⟩

/-- the entries of a standard batch, stored under `p[0] … p[n-1]` -/
structure Stored (c : Ctx) (es : List VEntry) where
  hp : String
  p : String
  sec : Str
  hH : lookup c.fields (joinPath c.recv "Header") = .ref hp
  hsec : lookup c.fields (joinPath hp "StandardEntryClassCode") = .str sec
  hnadv : sec ≠ ['A', 'D', 'V']
  hE : lookup c.fields (joinPath c.recv "Entries") = .lst p es.length
  hr : ∀ i, i < es.length → lookup c.fields (joinPath (elemPath p i) "RDFIIdentification") = .str (es.getD i default).rdfi
  ht : ∀ i, i < es.length → lookup c.fields (joinPath (elemPath p i) "TransactionCode") = .int (es.getD i default).code
  ha : ∀ i, i < es.length → lookup c.fields (joinPath (elemPath p i) "Amount") = .int (es.getD i default).amount

theorem rdfiNumber_eq (e : VEntry) : Ach.Props.AcceptedHash.rdfiNumber e.rdfi = rdfiValue e := by
  unfold Ach.Props.AcceptedHash.rdfiNumber rdfiValue
  cases atoi (aba8 e.rdfi) <;> rfl

/-- the model's `batchHash` is what the translated `Batch.calculateEntryHash` returns -/
theorem code_hash_is_model_hash (c : Ctx) (es : List VEntry) (S : Stored c es)
    (hascii : ∀ e ∈ es, allAscii e.rdfi = true) :
    (exec v_Batch_calculateEntryHash c []).2 = .ret (.int (batchHash es)) := by
  have hc : ∀ i, i < es.length → Ach.Props.AcceptedHash.rdfiContribution c (es.getD i default).rdfi =
      some (Ach.Props.AcceptedHash.rdfiNumber (es.getD i default).rdfi) := by
    intro i hi
    apply Ach.Props.AcceptedHash.rdfiContribution_ascii
    apply hascii
    simp [List.getD, hi]
  rw [Ach.Props.AcceptedHash.calculateEntryHash_spec c S.hp S.p es.length (fun i => (es.getD i default).rdfi)
    (fun i => Ach.Props.AcceptedHash.rdfiNumber (es.getD i default).rdfi) S.sec S.hH S.hsec S.hnadv S.hE S.hr hc]
  unfold batchHash
  rw [sumBy_eq_sum, ← map_range_getD es default rdfiValue]
  simp only [rdfiNumber_eq]

/-- the code lists read off the translated program are the lists the model takes from the generated switch table -/
theorem code_lists_agree :
    (Ach.Props.AcceptedAmounts.creditCodes.all (fun k => Ach.creditCodes.contains k) &&
     Ach.creditCodes.all (fun k => Ach.Props.AcceptedAmounts.creditCodes.contains k) &&
     Ach.Props.AcceptedAmounts.debitCodes.all (fun k => Ach.debitCodes.contains k) &&
     Ach.debitCodes.all (fun k => Ach.Props.AcceptedAmounts.debitCodes.contains k)) = true := by
  decide +kernel

theorem contains_agree {A B : List Int} (h1 : A.all (fun k => B.contains k) = true) (h2 : B.all (fun k => A.contains k) = true)
    (t : Int) : A.contains t = B.contains t := by
  rw [Bool.eq_iff_iff]
  simp only [List.contains_iff_mem]
  constructor
  · intro h; simpa using List.all_eq_true.mp h1 t h
  · intro h; simpa using List.all_eq_true.mp h2 t h

theorem creditPart_eq_model (t a : Int) :
    Ach.Props.AcceptedAmounts.creditPart t a = (if Ach.creditCodes.contains t then a else 0) := by
  have hl := code_lists_agree
  simp only [Bool.and_eq_true] at hl
  unfold Ach.Props.AcceptedAmounts.creditPart
  rw [contains_agree hl.1.1.1 hl.1.1.2]

/-- the code asks for a credit code first; the two lists are disjoint, so that makes no difference -/
theorem debitPart_eq_model (t a : Int) :
    Ach.Props.AcceptedAmounts.debitPart t a = (if Ach.debitCodes.contains t then a else 0) := by
  have hl := code_lists_agree
  simp only [Bool.and_eq_true] at hl
  unfold Ach.Props.AcceptedAmounts.debitPart
  rw [← contains_agree hl.1.2 hl.2]
  split
  · rename_i hc
    have hnd := List.all_eq_true.mp Ach.Props.AcceptedAmounts.credit_debit_disjoint t (by simpa using hc)
    simp only [Bool.not_eq_true'] at hnd
    rw [hnd]
    rfl
  · rfl

/-- the model's `creditTotal` / `debitTotal` are what the translated `Batch.calculateBatchAmounts` returns -/
theorem code_totals_are_model_totals (c : Ctx) (es : List VEntry) (S : Stored c es) :
    (exec v_Batch_calculateBatchAmounts c []).2 = .ret (.pair (.int (creditTotal es)) (.int (debitTotal es))) := by
  rw [Ach.Props.AcceptedAmounts.calculateBatchAmounts_spec c S.p es.length (fun i => (es.getD i default).code)
    (fun i => (es.getD i default).amount) S.hE S.ht S.ha]
  unfold creditTotal debitTotal
  rw [sumBy_eq_sum, sumBy_eq_sum, ← map_range_getD es default (fun e => if Ach.creditCodes.contains e.code then e.amount else 0),
    ← map_range_getD es default (fun e => if Ach.debitCodes.contains e.code then e.amount else 0)]
  simp only [creditPart_eq_model, debitPart_eq_model]

end Ach.Props.ModelBridge
