import Ach.Generated.Addenda
/-!
# Which addenda records hang off an entry: every function agrees (shared by C02, C05, C09); the `Create` wrappers (C05)

`EntryDetail.addendaCount` is what `Batch.build`, `Batch.isBatchEntryCount` and the merge line budget use for "records
this entry occupies"; `Writer.writeBatch` decides what is physically written.  The Addenda* fields each of them selects
are re-extracted from the source on every run; the obligations say they are the same sets, and that no addenda field of
the entry structs is forgotten by either.  Same for IAT entries (`IATBatch.isBatchEntryCount` vs `Writer.writeIATBatch`).
-/
namespace Ach.Props.Addenda
open Ach.Gen

def fieldsOf (k : String) : List String := (addendaFields.lookup k).getD ["?"]

def sameSet (a b : List String) : Bool := a.all b.contains && b.all a.contains

/-- standard entries: what is counted = what is written = every addenda field of the struct -/
theorem addenda_counted_are_written :
    sameSet (fieldsOf "EntryDetail.addendaCount") (fieldsOf "Writer.writeBatch") = true ∧
    sameSet (fieldsOf "EntryDetail.addendaCount") (fieldsOf "struct:EntryDetail") = true := by decide +kernel

/-- IAT entries: what the batch counts = what is written = every addenda field of the struct -/
theorem iat_addenda_counted_are_written :
    sameSet (fieldsOf "IATBatch.isBatchEntryCount") (fieldsOf "Writer.writeIATBatch") = true ∧
    sameSet (fieldsOf "IATBatch.isBatchEntryCount") (fieldsOf "struct:IATEntryDetail") = true := by decide +kernel

/-- ADV entries carry at most an Addenda99, which the standard writer loop emits for them -/
theorem adv_addenda_written :
    (fieldsOf "struct:ADVEntryDetail").all (fieldsOf "Writer.writeBatch").contains = true := by decide +kernel

/-- C05: every SEC-specific `Create` is "build, then Validate" — `Batch.build` is what `Ach.Model.Create` models
(C05's theorems), `BatchXXX.Validate` the translated validator of `Ach.Props.Validators`; there is one wrapper per SEC
code, and one for IAT batches -/
theorem create_wrappers_are_build_then_validate :
    createWrappers.all (fun w => w.2 == "if err := r.build(); err != nil { return err }; return r.Validate()") = true ∧
    createWrappers.length = 23 := by decide +kernel

end Ach.Props.Addenda
