import Ach.Props.Accepted
import Ach.Props.AcceptedFileBatches
/-!
# Every entry of an accepted batch passed `EntryDetail.Validate` (C03)

`Batch.verify` starts with `isFieldInclusion`, which validates the header, then — for a batch that is not an ADV batch —
every entry with `EntryDetail.Validate()` and each of its addenda with that addenda's validator, then the control.  An
accepting run therefore accepted every entry; with `accepted_entry_check_digit` and `entry_amount_in_field_at` the
per-entry clauses of C03 hold of every entry of an accepted batch, however many there are.
-/
namespace Ach.Props.AcceptedEntries
open Ach Ach.GoLite Ach.Gen

/-- the branch of `isFieldInclusion` for batches that are not ADV batches, read off the translated program -/
def stdPart : Prog :=
  match (stmts v_Batch_isFieldInclusion)[1]? with
  | some (Prog.block (Prog.seq _ (Prog.ite _ t _))) => t
  | _ => .skip

def entryBody : Prog :=
  match (stmts stdPart)[0]? with
  | some (Prog.forEach _ _ b) => b
  | _ => .skip

def stdBlock : Prog := .block (.seq (.sub "_t1" [] [] v_Batch_IsADV) (.ite (.not (.var "_t1")) stdPart .skip))

def callEntryValidate : Prog := .checkOn none (.var "entry") [] [] v_EntryDetail_Validate

theorem field_inclusion_outline :
    (stmts v_Batch_verify).drop 1 = (.check (some "!FieldError") v_Batch_isFieldInclusion) :: (stmts v_Batch_verify).drop 2 ∧
    (stmts v_Batch_verify).drop 2 ≠ [] ∧
    ((stmts v_Batch_verify).take 1).all (fun q => rejectOnly q && noAssign q) = true ∧
    stmts v_Batch_isFieldInclusion =
      (.checkOn none (.fld "Header") [] [] v_BatchHeader_Validate) ::
      stdBlock :: (stmts v_Batch_isFieldInclusion).drop 2 ∧
    (stmts v_Batch_isFieldInclusion).drop 2 ≠ [] ∧
    endsInRet stdPart = true ∧
    stmts stdPart = (.forEach "entry" (.fld "Entries") entryBody) :: (stmts stdPart).drop 1 ∧
    (stmts stdPart).drop 1 ≠ [] ∧
    rejectOnly (.forEach "entry" (.fld "Entries") entryBody) = true ∧
    calm entryBody = true ∧
    stmts entryBody = callEntryValidate :: (stmts entryBody).drop 1 ∧
    (stmts entryBody).drop 1 ≠ [] :=
  ⟨rfl, by decide +kernel, by decide +kernel, rfl, by decide +kernel, by decide +kernel, rfl, by decide +kernel,
    by decide +kernel, by decide +kernel, rfl, by decide +kernel⟩

theorem checkOn_var_passes (c : Ctx) (ep : String) (l : Locals) (P : Prog)
    (h : (exec (.checkOn none (.var "entry") [] [] P) c (("entry", .ref ep) :: l)).2 = .next) :
    (exec P { c with recv := ep } []).2 = .ret (.err none) :=
  checkOn_passes (by simp [eval, lookup]) h

/-- an accepting run of `Batch.verify` on a standard batch ran the body of the entry loop of `isFieldInclusion` on every
entry, and every statement of the body that stands behind calm scopes only fell through, with `entry` as the loop set it -/
theorem entry_body_passes (c : Ctx) (hp p : String) (n : Nat) (sec : Str)
    (hH : lookup c.fields (joinPath c.recv "Header") = .ref hp)
    (hsec : lookup c.fields (joinPath hp "StandardEntryClassCode") = .str sec) (hnadv : sec ≠ ['A', 'D', 'V'])
    (hE : lookup c.fields (joinPath c.recv "Entries") = .lst p n)
    (ha : run c v_Batch_verify = .accept)
    {k : Nat} {q : Prog} {rest : List Prog} (hd : (stmts entryBody).drop k = q :: rest)
    (hk : ((stmts entryBody).take k).all (fun s => isScope s && calm s) = true) :
    ∀ i, i < n → ∃ l, (exec q c (("entry", .ref (elemPath p i)) :: l)).2 = .next := by
  obtain ⟨hd1, _, hall1, hFI, hneFI, hend, hSP, hneSP, hroF, hcalm, _⟩ := field_inclusion_outline
  have hfi := accept_passes_check hd1 hall1 ha
  -- isFieldInclusion: past the header, into the branch for standard batches, which ends in a `return`
  rw [← seqs_stmts v_Batch_isFieldInclusion, hFI, seqs_cons_ne _ _ (by simp), seqs_cons_ne _ _ hneFI] at hfi
  obtain ⟨pre, hblock⟩ := accept_seq rfl rfl hfi
  have hpart := accept_enters_branch (Ach.Props.Accepted.batch_isADV_false c hp sec hH hsec hnadv) hend hblock
  rw [← seqs_stmts stdPart, hSP, seqs_cons_ne _ _ hneSP] at hpart
  exact fun i hi => ⟨_, scopes_pass hd hk (forEach_visits hcalm (accept_seq_left hroF hpart) hE i hi)⟩

/-- C03 — for every standard (non-ADV) batch value, of any size: if `Batch.verify()` (translated from the source on this
run) returns nil, then `EntryDetail.Validate()` returned nil for **every** entry of the batch -/
theorem accepted_batch_entries_validated (c : Ctx) (hp p : String) (n : Nat) (sec : Str)
    (hH : lookup c.fields (joinPath c.recv "Header") = .ref hp)
    (hsec : lookup c.fields (joinPath hp "StandardEntryClassCode") = .str sec) (hnadv : sec ≠ ['A', 'D', 'V'])
    (hE : lookup c.fields (joinPath c.recv "Entries") = .lst p n)
    (ha : run c v_Batch_verify = .accept) :
    ∀ i, i < n → run { c with recv := elemPath p i } v_EntryDetail_Validate = .accept := by
  intro i hi
  obtain ⟨_, _, _, _, _, _, _, _, _, _, hstart, _⟩ := field_inclusion_outline
  obtain ⟨l, hcall⟩ := entry_body_passes c hp p n sec hH hsec hnadv hE ha (k := 0) hstart rfl i hi
  exact run_accept.mpr (checkOn_var_passes c _ _ _ hcall)

/-- C03, per entry — hence in every accepted standard batch, every entry has its check digit right (unless
`AllowInvalidCheckDigit`) -/
theorem accepted_batch_every_entry (c : Ctx) (hp p : String) (n : Nat) (sec : Str) (rdfi cd : Nat → Str)
    (hH : lookup c.fields (joinPath c.recv "Header") = .ref hp)
    (hsec : lookup c.fields (joinPath hp "StandardEntryClassCode") = .str sec) (hnadv : sec ≠ ['A', 'D', 'V'])
    (hE : lookup c.fields (joinPath c.recv "Entries") = .lst p n)
    (hr : ∀ i, i < n → lookup c.fields (joinPath (elemPath p i) "RDFIIdentification") = .str (rdfi i))
    (hc : ∀ i, i < n → lookup c.fields (joinPath (elemPath p i) "CheckDigit") = .str (cd i))
    (ha : run c v_Batch_verify = .accept) :
    ∀ i, i < n → (hasFlag c "recv" "AllowInvalidCheckDigit" = false →
      atoi (cd i) = some (calculateCheckDigit (stringField (rdfi i) 8))) := by
  intro i hi hflag
  have hv := accepted_batch_entries_validated c hp p n sec hH hsec hnadv hE ha i hi
  exact Ach.Props.Accepted.accepted_entry_check_digit { c with recv := elemPath p i } hflag (rdfi i) (cd i) (hr i hi) (hc i hi) hv

/-- C03, per entry — … and an amount between 0 and 9,999,999,999 (the `amountOverflowsField` guard stands on the spine of
`EntryDetail.Validate`) -/
theorem accepted_batch_every_amount (c : Ctx) (hp p : String) (n : Nat) (sec : Str) (am : Nat → Int)
    (hH : lookup c.fields (joinPath c.recv "Header") = .ref hp)
    (hsec : lookup c.fields (joinPath hp "StandardEntryClassCode") = .str sec) (hnadv : sec ≠ ['A', 'D', 'V'])
    (hE : lookup c.fields (joinPath c.recv "Entries") = .lst p n)
    (hamt : ∀ i, i < n → lookup c.fields (joinPath (elemPath p i) "Amount") = .int (am i))
    (ha : run c v_Batch_verify = .accept) :
    ∀ i, i < n → 0 ≤ am i ∧ am i ≤ 9999999999 := by
  intro i hi
  have hv := accepted_batch_entries_validated c hp p n sec hH hsec hnadv hE ha i hi
  exact Validators.entry_amount_in_field_at { c with recv := elemPath p i } (am i) (hamt i hi) hv

/-- C03, end to end — for every file value of standard batches (any number of batches, any sizes) on which
`File.ValidateWith(opts)` — translated from the source on this run — returns nil without `SkipAll`: every entry of every
batch was accepted by `EntryDetail.Validate()` -/
theorem accepted_file_every_entry (c : Ctx) (bp : String) (nb : Nat)
    (hB : lookup c.fields (joinPath c.recv "Batches") = .lst bp nb)
    (hskip : hasFlag c "param" "SkipAll" = false)
    (hnadv : (exec v_File_IsADV c []).2 = .ret (.bool false))
    (ha : run c v_File_ValidateWith = .accept)
    (i : Nat) (hi : i < nb) (T : String) (hT : lookup c.fields (joinPath (elemPath bp i) "$type") = .str T.toList)
    (hTn : T ≠ "BatchADV")
    (hp p : String) (n : Nat) (sec : Str)
    (hH : lookup c.fields (joinPath (elemPath bp i) "Header") = .ref hp)
    (hsec : lookup c.fields (joinPath hp "StandardEntryClassCode") = .str sec) (hsn : sec ≠ ['A', 'D', 'V'])
    (hE : lookup c.fields (joinPath (elemPath bp i) "Entries") = .lst p n) :
    ∀ j, j < n → run { c with recv := elemPath p j } v_EntryDetail_Validate = .accept := by
  have hv := Ach.Props.AcceptedFileBatches.accepted_file_batches_verified c bp nb hB hskip hnadv ha i hi T hT hTn
  exact accepted_batch_entries_validated { c with recv := elemPath bp i } hp p n sec hH hsec hsn hE hv

end Ach.Props.AcceptedEntries
