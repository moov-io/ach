import Ach.Proofs.GoLiteSteps
import Ach.Generated.Validators
/-!
# The file control's count, hash and totals are the sums over the batch controls (C03)

`File.isEntryAddendaCount`, `File.isFileAmount`, `File.calculateEntryHash` / `File.isEntryHash` walk the batches and the
IAT batches and add up fields of their control records.  Their translations are shown to be — today — the programs
below, built from one summing loop (`sumLoop`; `amtLoop` keeps two sums); what such a loop computes, for any number of
batches, is an instance of `iter_fold` / `exec_forEach_fold`.
(`File.ValidateWith` calls the three with `IsADV = false` for a file of standard / IAT batches.)
-/

namespace Ach.Props.AcceptedFile
open Ach Ach.GoLite Ach.Gen

/-- `x += v.F.G` -/
def addSel (x v F G : String) : Prog := .assign x (.add (.var x) (.sel (.sel (.var v) F) G))

theorem addSel_exec {c : Ctx} {x v F G ep cp : String} {val a : Int} {rest : Locals} (hne : (v == x) = false)
    (hcp : lookup c.fields (joinPath ep F) = .ref cp) (hv : lookup c.fields (joinPath cp G) = .int val) :
    exec (addSel x v F G) c ((v, .ref ep) :: (x, .int a) :: rest) =
      ((v, .ref ep) :: (x, .int (a + val)) :: rest, .next) := by
  simp [addSel, exec, eval, lookup, hne, hcp, hv, arith, update]

theorem addSel_iter (c : Ctx) (x v F G : String) (hne : (v == x) = false) (p : String) (n : Nat) (cp : Nat → String)
    (val : Nat → Int) (rest : Locals)
    (hcp : ∀ i, i < n → lookup c.fields (joinPath (elemPath p i) F) = .ref (cp i))
    (hv : ∀ i, i < n → lookup c.fields (joinPath (cp i) G) = .int (val i)) :
    ∀ is : List Nat, (∀ i ∈ is, i < n) → ∀ a : Int,
      iter (fun l' => exec (addSel x v F G) c l') (fun i => .ref (elemPath p i)) v is ((x, .int a) :: rest) =
        ((x, .int (a + (is.map val).sum)) :: rest, .next) := by
  intro is hlt a
  rw [iter_fold _ _ v (fun a => (x, .int a) :: rest) (fun a i => a + val i) is _ a, foldl_add_sum]
  exact fun i hi _ => step_of_exec [_] (addSel_exec hne (hcp i (hlt i hi)) (hv i (hlt i hi))) rfl

/-- `for _, v := range coll { x += v.F.G }` -/
def sumLoop (x v coll F G : String) : Prog := .forEach v (.fld coll) (addSel x v F G)

theorem sumLoop_exec {c : Ctx} {x v coll F G p : String} {n : Nat} {cp : Nat → String} {val : Nat → Int}
    (hne : (v == x) = false) (hL : lookup c.fields (joinPath c.recv coll) = .lst p n)
    (hcp : ∀ i, i < n → lookup c.fields (joinPath (elemPath p i) F) = .ref (cp i))
    (hv : ∀ i, i < n → lookup c.fields (joinPath (cp i) G) = .int (val i)) (a : Int) (rest : Locals) :
    exec (sumLoop x v coll F G) c ((x, .int a) :: rest) =
      ((x, .int (a + ((List.range n).map val).sum)) :: rest, .next) := by
  rw [sumLoop, exec_forEach_lst (coll := .fld coll) hL]
  exact addSel_iter c x v F G hne p n cp val rest hcp hv _ (fun k hk => List.mem_range.mp hk) a

/-- the batches of a file of standard and IAT batches: where they are stored, where their controls are -/
structure Batches (c : Ctx) where
  bp : String
  nb : Nat
  ip : String
  ni : Nat
  bc : Nat → String
  ic : Nat → String
  hB : lookup c.fields (joinPath c.recv "Batches") = .lst bp nb
  hI : lookup c.fields (joinPath c.recv "IATBatches") = .lst ip ni
  hbc : ∀ i, i < nb → lookup c.fields (joinPath (elemPath bp i) "Control") = .ref (bc i)
  hic : ∀ i, i < ni → lookup c.fields (joinPath (elemPath ip i) "Control") = .ref (ic i)

/-- Σ over the batch controls, then over the IAT batch controls, of an integer field -/
def total {c : Ctx} (B : Batches c) (vb vi : Nat → Int) : Int :=
  ((List.range B.nb).map vb).sum + ((List.range B.ni).map vi).sum

theorem stdLoops_exec {c : Ctx} (B : Batches c) {x G : String} {vb vi : Nat → Int} (hb : ("batch" == x) = false)
    (hi : ("iatBatch" == x) = false)
    (hvb : ∀ i, i < B.nb → lookup c.fields (joinPath (B.bc i) G) = .int (vb i))
    (hvi : ∀ i, i < B.ni → lookup c.fields (joinPath (B.ic i) G) = .int (vi i)) (rest : Locals) :
    exec (sumLoop x "batch" "Batches" "Control" G) c ((x, .int 0) :: rest) =
      ((x, .int ((List.range B.nb).map vb).sum) :: rest, .next) ∧
    exec (sumLoop x "iatBatch" "IATBatches" "Control" G) c ((x, .int ((List.range B.nb).map vb).sum) :: rest) =
      ((x, .int (total B vb vi)) :: rest, .next) :=
  ⟨by simpa using sumLoop_exec hb B.hB B.hbc hvb 0 rest, sumLoop_exec hi B.hI B.hic hvi _ rest⟩

def fileHashProg : Prog :=
  seqs [(.bind "hash" (.int 0)),
    (.ite (.not (.var "IsADV"))
      (seqs [sumLoop "hash" "batch" "Batches" "Control" "EntryHash",
        sumLoop "hash" "iatBatch" "IATBatches" "Control" "EntryHash"])
      (sumLoop "hash" "batch" "Batches" "ADVControl" "EntryHash")),
    (.ret (.call2 "leastSignificantDigits" (.var "hash") (.int 10)))]

theorem file_calculateEntryHash_shape : v_File_calculateEntryHash = fileHashProg := rfl

theorem file_calculateEntryHash_spec (c : Ctx) (B : Batches c) (vb vi : Nat → Int)
    (hvb : ∀ i, i < B.nb → lookup c.fields (joinPath (B.bc i) "EntryHash") = .int (vb i))
    (hvi : ∀ i, i < B.ni → lookup c.fields (joinPath (B.ic i) "EntryHash") = .int (vi i)) :
    (exec v_File_calculateEntryHash c [("IsADV", .bool false)]).2 =
      .ret (.int (leastSignificantDigits (total B vb vi) 10)) := by
  obtain ⟨h1, h2⟩ := stdLoops_exec B (x := "hash") (by decide) (by decide) hvb hvi [("IsADV", .bool false)]
  simp [file_calculateEntryHash_shape, fileHashProg, seqs, exec, eval, lookup, h1, h2, scopeExit, builtin2]

def fileIsHashProg : Prog :=
  seqs [(seqs [(.sub "_t1" ["IsADV"] [(.var "IsADV")] v_File_calculateEntryHash), (.bind "hashField" (.var "_t1"))]),
    (.ite (.not (.var "IsADV"))
      (.ite (.ne (.var "hashField") (.sel (.fld "Control") "EntryHash")) (.ret (.mkErr "EntryHash")) .skip)
      (.ite (.ne (.var "hashField") (.sel (.fld "ADVControl") "EntryHash")) (.ret (.mkErr "EntryHash")) .skip)),
    (.ret .nil)]

theorem file_isEntryHash_shape : v_File_isEntryHash = fileIsHashProg := rfl

/-- C03, file control — `File.isEntryHash(false)` returns nil only if the file control's entry hash is the ten least
significant digits of the sum of the batch controls' entry hashes (standard and IAT batches, any number of them) -/
theorem file_isEntryHash_accepts (c : Ctx) (B : Batches c) (vb vi : Nat → Int) (cp : String) (e : Int)
    (hvb : ∀ i, i < B.nb → lookup c.fields (joinPath (B.bc i) "EntryHash") = .int (vb i))
    (hvi : ∀ i, i < B.ni → lookup c.fields (joinPath (B.ic i) "EntryHash") = .int (vi i))
    (hC : lookup c.fields (joinPath c.recv "Control") = .ref cp)
    (he : lookup c.fields (joinPath cp "EntryHash") = .int e)
    (h : (exec v_File_isEntryHash c [("IsADV", .bool false)]).2 = .ret (.err none)) :
    e = leastSignificantDigits (total B vb vi) 10 := by
  rw [file_isEntryHash_shape] at h
  have hcalc := file_calculateEntryHash_spec c B vb vi hvb hvi
  by_cases heq : leastSignificantDigits (total B vb vi) 10 = e
  · exact heq.symm
  · simp [fileIsHashProg, seqs, exec, eval, lookup, hcalc, subResult, hC, he, cmpVals, scopeExit, heq] at h

def fileCountGuard (ctl : String) : Prog :=
  .ite (.ne (.sel (.fld ctl) "EntryAddendaCount") (.var "count"))
    (seqs [(.ite (.flag "recv" "UnequalAddendaCounts") (.ret .nil) .skip), (.ret (.mkErr "EntryAddendaCount"))])
    .skip

def fileCountProg : Prog :=
  seqs [(.bind "count" (.int 0)),
    (.ite (.not (.var "IsADV"))
      (seqs [sumLoop "count" "batch" "Batches" "Control" "EntryAddendaCount",
        sumLoop "count" "iatBatch" "IATBatches" "Control" "EntryAddendaCount",
        fileCountGuard "Control"])
      (seqs [sumLoop "count" "batch" "Batches" "ADVControl" "EntryAddendaCount",
        fileCountGuard "ADVControl"])),
    (.ret .nil)]

theorem file_isEntryAddendaCount_shape : v_File_isEntryAddendaCount = fileCountProg := rfl

/-- C03, file control — `File.isEntryAddendaCount(false)` returns nil, with `UnequalAddendaCounts` off, only if the file
control's entry/addenda count is the sum of the batch controls' counts -/
theorem file_isEntryAddendaCount_accepts (c : Ctx) (B : Batches c) (vb vi : Nat → Int) (cp : String) (e : Int)
    (hflag : hasFlag c "recv" "UnequalAddendaCounts" = false)
    (hvb : ∀ i, i < B.nb → lookup c.fields (joinPath (B.bc i) "EntryAddendaCount") = .int (vb i))
    (hvi : ∀ i, i < B.ni → lookup c.fields (joinPath (B.ic i) "EntryAddendaCount") = .int (vi i))
    (hC : lookup c.fields (joinPath c.recv "Control") = .ref cp)
    (he : lookup c.fields (joinPath cp "EntryAddendaCount") = .int e)
    (h : (exec v_File_isEntryAddendaCount c [("IsADV", .bool false)]).2 = .ret (.err none)) :
    e = total B vb vi := by
  rw [file_isEntryAddendaCount_shape] at h
  obtain ⟨h1, h2⟩ := stdLoops_exec B (x := "count") (by decide) (by decide) hvb hvi [("IsADV", .bool false)]
  by_cases heq : e = total B vb vi
  · exact heq
  · simp [fileCountProg, fileCountGuard, seqs, exec, eval, lookup, h1, h2, scopeExit, hC, he, cmpVals, hflag, heq] at h

def amtLoop (v coll ctl : String) : Prog :=
  .forEach v (.fld coll)
    (seqs [addSel "debit" v ctl "TotalDebitEntryDollarAmount", addSel "credit" v ctl "TotalCreditEntryDollarAmount"])

theorem amtLoop_exec {c : Ctx} {v coll ctl p : String} {n : Nat} {cp : Nat → String} {db cr : Nat → Int}
    (hv1 : (v == "debit") = false) (hv2 : (v == "credit") = false)
    (hL : lookup c.fields (joinPath c.recv coll) = .lst p n)
    (hcp : ∀ i, i < n → lookup c.fields (joinPath (elemPath p i) ctl) = .ref (cp i))
    (hdb : ∀ i, i < n → lookup c.fields (joinPath (cp i) "TotalDebitEntryDollarAmount") = .int (db i))
    (hcr : ∀ i, i < n → lookup c.fields (joinPath (cp i) "TotalCreditEntryDollarAmount") = .int (cr i))
    (a b : Int) (rest : Locals) :
    exec (amtLoop v coll ctl) c (("credit", .int a) :: ("debit", .int b) :: rest) =
      (("credit", .int (a + ((List.range n).map cr).sum)) :: ("debit", .int (b + ((List.range n).map db).sum)) :: rest,
        .next) := by
  rw [amtLoop, exec_forEach_fold (coll := .fld coll)
    (fun s : Int × Int => ("credit", .int s.1) :: ("debit", .int s.2) :: rest) (fun s i => (s.1 + cr i, s.2 + db i)) (a, b) hL,
    foldl_add_sum2]
  intro i hi s
  simp [addSel, seqs, exec, eval, lookup, hv1, hv2, hcp i hi, hdb i hi, hcr i hi, arith, update, scopeExit]

/-- `if f.<ctl>.<F> != x { return error }` -/
def totalGuard (ctl F x : String) : Prog := .ite (.ne (.sel (.fld ctl) F) (.var x)) (.ret (.mkErr F)) .skip

def fileAmountProg : Prog :=
  seqs [(.bind "debit" (.int 0)), (.bind "credit" (.int 0)),
    (.ite (.not (.var "IsADV"))
      (seqs [amtLoop "batch" "Batches" "Control", amtLoop "iatBatch" "IATBatches" "Control",
        totalGuard "Control" "TotalDebitEntryDollarAmountInFile" "debit",
        totalGuard "Control" "TotalCreditEntryDollarAmountInFile" "credit"])
      (seqs [amtLoop "batch" "Batches" "ADVControl",
        totalGuard "ADVControl" "TotalDebitEntryDollarAmountInFile" "debit",
        totalGuard "ADVControl" "TotalCreditEntryDollarAmountInFile" "credit"])),
    (.ret .nil)]

theorem file_isFileAmount_shape : v_File_isFileAmount = fileAmountProg := rfl

/-- C03, file control — `File.isFileAmount(false)` returns nil only if the file control's debit and credit totals are the
sums of the batch controls' totals (standard and IAT batches, any number of them) -/
theorem file_isFileAmount_accepts (c : Ctx) (B : Batches c) (dbb crb dbi cri : Nat → Int) (cp : String) (td tc : Int)
    (h1d : ∀ i, i < B.nb → lookup c.fields (joinPath (B.bc i) "TotalDebitEntryDollarAmount") = .int (dbb i))
    (h1c : ∀ i, i < B.nb → lookup c.fields (joinPath (B.bc i) "TotalCreditEntryDollarAmount") = .int (crb i))
    (h2d : ∀ i, i < B.ni → lookup c.fields (joinPath (B.ic i) "TotalDebitEntryDollarAmount") = .int (dbi i))
    (h2c : ∀ i, i < B.ni → lookup c.fields (joinPath (B.ic i) "TotalCreditEntryDollarAmount") = .int (cri i))
    (hC : lookup c.fields (joinPath c.recv "Control") = .ref cp)
    (htd : lookup c.fields (joinPath cp "TotalDebitEntryDollarAmountInFile") = .int td)
    (htc : lookup c.fields (joinPath cp "TotalCreditEntryDollarAmountInFile") = .int tc)
    (h : (exec v_File_isFileAmount c [("IsADV", .bool false)]).2 = .ret (.err none)) :
    td = total B dbb dbi ∧ tc = total B crb cri := by
  rw [file_isFileAmount_shape] at h
  have i1 := amtLoop_exec (v := "batch") (by decide) (by decide) B.hB B.hbc h1d h1c 0 0 [("IsADV", .bool false)]
  have i2 := amtLoop_exec (v := "iatBatch") (by decide) (by decide) B.hI B.hic h2d h2c
    (0 + ((List.range B.nb).map crb).sum) (0 + ((List.range B.nb).map dbb).sum) [("IsADV", .bool false)]
  simp only [Int.zero_add] at i1 i2
  unfold total
  by_cases e1 : td = ((List.range B.nb).map dbb).sum + ((List.range B.ni).map dbi).sum <;>
    by_cases e2 : tc = ((List.range B.nb).map crb).sum + ((List.range B.ni).map cri).sum
  · exact ⟨e1, e2⟩
  all_goals
    simp [fileAmountProg, totalGuard, seqs, exec, eval, lookup, i1, i2, scopeExit, hC, htd, htc, cmpVals, e1, e2] at h

end Ach.Props.AcceptedFile
