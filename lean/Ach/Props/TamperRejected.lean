import Ach.Props.AcceptedAmounts
import Ach.Props.AcceptedFileValidate
import Ach.Props.AcceptedHash
import Ach.Props.AcceptedCount
/-!
# A control value that is not what its entries add up to is rejected (C04, on the translated validation code)

Contrapositives of the `accepted_…` theorems: for every batch / file value — any size — whose control record carries a
count, hash, total, ODFI or batch number other than the one its entries (batches) determine, the validation code as
translated from the source on this run does **not** return nil.  A single changed digit of such a field changes its
value (decimal fields of fixed width are injective: `Ach.Props.C04.digit_flip_changes_number`), so it is refused.
-/
namespace Ach.Props.TamperRejected
open Ach Ach.GoLite Ach.Gen

theorem wrong_entry_hash_rejected (c : Ctx) (hp cp p : String) (n : Nat) (r : Nat → Str) (sec : Str) (e : Int)
    (hH : lookup c.fields (joinPath c.recv "Header") = .ref hp)
    (hsec : lookup c.fields (joinPath hp "StandardEntryClassCode") = .str sec) (hnadv : sec ≠ ['A', 'D', 'V'])
    (hC : lookup c.fields (joinPath c.recv "Control") = .ref cp)
    (he : lookup c.fields (joinPath cp "EntryHash") = .int e)
    (hE : lookup c.fields (joinPath c.recv "Entries") = .lst p n)
    (hr : ∀ i, i < n → lookup c.fields (joinPath (elemPath p i) "RDFIIdentification") = .str (r i))
    (hascii : ∀ i, i < n → allAscii (r i) = true)
    (hwrong : e ≠ leastSignificantDigits (((List.range n).map (fun i => Ach.Props.AcceptedHash.rdfiNumber (r i))).sum) 10) :
    run c v_Batch_verify ≠ .accept :=
  fun ha => hwrong (Ach.Props.AcceptedHash.accepted_batch_entry_hash_ascii c hp cp p n r sec e hH hsec hnadv hC he hE hr hascii ha)

theorem wrong_entry_count_rejected (c : Ctx) (hp cp p : String) (n : Nat) (cnt : Nat → Int) (sec : Str) (e : Int)
    (hflag : hasFlag c "recv" "UnequalAddendaCounts" = false)
    (hH : lookup c.fields (joinPath c.recv "Header") = .ref hp)
    (hsec : lookup c.fields (joinPath hp "StandardEntryClassCode") = .str sec) (hnadv : sec ≠ ['A', 'D', 'V'])
    (hC : lookup c.fields (joinPath c.recv "Control") = .ref cp)
    (he : lookup c.fields (joinPath cp "EntryAddendaCount") = .int e)
    (hE : lookup c.fields (joinPath c.recv "Entries") = .lst p n)
    (hc : ∀ i, i < n → Ach.Props.AcceptedCount.addendaCountOf c (elemPath p i) = some (cnt i))
    (hwrong : e ≠ ((List.range n).map (fun i => 1 + cnt i)).sum) :
    run c v_Batch_verify ≠ .accept :=
  fun ha => hwrong (Ach.Props.AcceptedCount.accepted_batch_entry_count c hp cp p n cnt sec e hflag hH hsec hnadv hC he hE hc ha)

theorem wrong_totals_rejected (c : Ctx) (hp cp p : String) (n : Nat) (tc am : Nat → Int) (sec : Str) (tcr tdb : Int)
    (hH : lookup c.fields (joinPath c.recv "Header") = .ref hp)
    (hsec : lookup c.fields (joinPath hp "StandardEntryClassCode") = .str sec) (hnadv : sec ≠ ['A', 'D', 'V'])
    (hC : lookup c.fields (joinPath c.recv "Control") = .ref cp)
    (hcr : lookup c.fields (joinPath cp "TotalCreditEntryDollarAmount") = .int tcr)
    (hdb : lookup c.fields (joinPath cp "TotalDebitEntryDollarAmount") = .int tdb)
    (hE : lookup c.fields (joinPath c.recv "Entries") = .lst p n)
    (ht : ∀ i, i < n → lookup c.fields (joinPath (elemPath p i) "TransactionCode") = .int (tc i))
    (ham : ∀ i, i < n → lookup c.fields (joinPath (elemPath p i) "Amount") = .int (am i))
    (hwrong : tcr ≠ ((List.range n).map (fun i => Ach.Props.AcceptedAmounts.creditPart (tc i) (am i))).sum ∨
              tdb ≠ ((List.range n).map (fun i => Ach.Props.AcceptedAmounts.debitPart (tc i) (am i))).sum) :
    run c v_Batch_verify ≠ .accept := by
  intro ha
  obtain ⟨h1, h2⟩ := Ach.Props.AcceptedAmounts.accepted_batch_totals c hp cp p n tc am sec tcr tdb hH hsec hnadv hC hcr hdb hE ht ham ha
  rcases hwrong with h | h
  · exact h h1
  · exact h h2

theorem header_control_mismatch_rejected (c : Ctx) (hp cp : String) (sec ci1 ci2 o1 o2 : Str) (n1 n2 s1 s2 : Int)
    (hH : lookup c.fields (joinPath c.recv "Header") = .ref hp)
    (hC : lookup c.fields (joinPath c.recv "Control") = .ref cp)
    (hsec : lookup c.fields (joinPath hp "StandardEntryClassCode") = .str sec) (hnadv : sec ≠ ['A', 'D', 'V'])
    (hs1 : lookup c.fields (joinPath hp "ServiceClassCode") = .int s1)
    (hs2 : lookup c.fields (joinPath cp "ServiceClassCode") = .int s2)
    (hc1 : lookup c.fields (joinPath hp "CompanyIdentification") = .str ci1)
    (hc2 : lookup c.fields (joinPath cp "CompanyIdentification") = .str ci2)
    (ho1 : lookup c.fields (joinPath hp "ODFIIdentification") = .str o1)
    (ho2 : lookup c.fields (joinPath cp "ODFIIdentification") = .str o2)
    (hn1 : lookup c.fields (joinPath hp "BatchNumber") = .int n1)
    (hn2 : lookup c.fields (joinPath cp "BatchNumber") = .int n2)
    (hwrong : o1 ≠ o2 ∨ n1 ≠ n2 ∨ (hasFlag c "recv" "UnequalServiceClassCode" = false ∧ s1 ≠ s2)) :
    run c v_Batch_verify ≠ .accept := by
  intro ha
  obtain ⟨h1, h2, h3, _⟩ := Ach.Props.Accepted.accepted_batch_header_control_agree c hp cp sec ci1 ci2 o1 o2 n1 n2 s1 s2
    hH hC hsec hnadv hs1 hs2 hc1 hc2 ho1 ho2 hn1 hn2 ha
  rcases hwrong with h | h | ⟨hf, h⟩
  · exact h h1
  · exact h h2
  · exact h (h3 hf)

theorem wrong_check_digit_rejected (c : Ctx) (hflag : hasFlag c "recv" "AllowInvalidCheckDigit" = false) (rdfi cd : Str)
    (hr : lookup c.fields (joinPath c.recv "RDFIIdentification") = .str rdfi)
    (hc : lookup c.fields (joinPath c.recv "CheckDigit") = .str cd)
    (hwrong : atoi cd ≠ some (calculateCheckDigit (stringField rdfi 8))) :
    run c v_EntryDetail_Validate ≠ .accept :=
  fun ha => hwrong (Ach.Props.Accepted.accepted_entry_check_digit c hflag rdfi cd hr hc ha)

open Ach.Props.AcceptedFile in
theorem wrong_file_control_rejected (c : Ctx) (B : Batches c) (cp : String)
    (cntB cntI dbB dbI crB crI hsB hsI : Nat → Int) (cnt td tc hash : Int)
    (hskip : hasFlag c "param" "SkipAll" = false)
    (hnadv : (exec v_File_IsADV c []).2 = .ret (.bool false))
    (hC : lookup c.fields (joinPath c.recv "Control") = .ref cp)
    (h1 : ∀ i, i < B.nb → lookup c.fields (joinPath (B.bc i) "EntryAddendaCount") = .int (cntB i))
    (h2 : ∀ i, i < B.ni → lookup c.fields (joinPath (B.ic i) "EntryAddendaCount") = .int (cntI i))
    (h3 : ∀ i, i < B.nb → lookup c.fields (joinPath (B.bc i) "TotalDebitEntryDollarAmount") = .int (dbB i))
    (h4 : ∀ i, i < B.nb → lookup c.fields (joinPath (B.bc i) "TotalCreditEntryDollarAmount") = .int (crB i))
    (h5 : ∀ i, i < B.ni → lookup c.fields (joinPath (B.ic i) "TotalDebitEntryDollarAmount") = .int (dbI i))
    (h6 : ∀ i, i < B.ni → lookup c.fields (joinPath (B.ic i) "TotalCreditEntryDollarAmount") = .int (crI i))
    (h7 : ∀ i, i < B.nb → lookup c.fields (joinPath (B.bc i) "EntryHash") = .int (hsB i))
    (h8 : ∀ i, i < B.ni → lookup c.fields (joinPath (B.ic i) "EntryHash") = .int (hsI i))
    (e1 : lookup c.fields (joinPath cp "EntryAddendaCount") = .int cnt)
    (e2 : lookup c.fields (joinPath cp "TotalDebitEntryDollarAmountInFile") = .int td)
    (e3 : lookup c.fields (joinPath cp "TotalCreditEntryDollarAmountInFile") = .int tc)
    (e4 : lookup c.fields (joinPath cp "EntryHash") = .int hash)
    (hwrong : (hasFlag c "recv" "UnequalAddendaCounts" = false ∧ cnt ≠ total B cntB cntI) ∨ td ≠ total B dbB dbI ∨
      tc ≠ total B crB crI ∨ hash ≠ leastSignificantDigits (total B hsB hsI) 10) :
    run c v_File_ValidateWith ≠ .accept := by
  intro ha
  obtain ⟨a1, a2, a3, a4⟩ := Ach.Props.AcceptedFileValidate.accepted_file_control_sums c B cp cntB cntI dbB dbI crB crI hsB hsI
    cnt td tc hash hskip hnadv hC h1 h2 h3 h4 h5 h6 h7 h8 e1 e2 e3 e4 ha
  rcases hwrong with ⟨hf, h⟩ | h | h | h
  · exact h (a1 hf)
  · exact h a2
  · exact h a3
  · exact h a4

end Ach.Props.TamperRejected
