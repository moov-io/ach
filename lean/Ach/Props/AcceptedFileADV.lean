import Ach.Props.AcceptedFileValidate
/-!
# ADV files: the ADV file control carries the sums over the ADV batch controls (C03)
-/
namespace Ach.Props.AcceptedFileADV
open Ach Ach.GoLite Ach.Gen Ach.Props.AcceptedFile Ach.Props.AcceptedFileValidate

/-- the batches of an ADV file: where they are stored, where their ADV controls are -/
structure AdvBatches (c : Ctx) where
  bp : String
  nb : Nat
  bc : Nat → String
  hB : lookup c.fields (joinPath c.recv "Batches") = .lst bp nb
  hbc : ∀ i, i < nb → lookup c.fields (joinPath (elemPath bp i) "ADVControl") = .ref (bc i)

def advTotal {c : Ctx} (B : AdvBatches c) (v : Nat → Int) : Int := ((List.range B.nb).map v).sum

theorem advLoop_exec {c : Ctx} (B : AdvBatches c) {x G : String} {v : Nat → Int} (hb : ("batch" == x) = false)
    (hv : ∀ i, i < B.nb → lookup c.fields (joinPath (B.bc i) G) = .int (v i)) (rest : Locals) :
    exec (sumLoop x "batch" "Batches" "ADVControl" G) c ((x, .int 0) :: rest) = ((x, .int (advTotal B v)) :: rest, .next) := by
  simpa [advTotal] using sumLoop_exec hb B.hB B.hbc hv 0 rest

theorem adv_file_calculateEntryHash_spec (c : Ctx) (B : AdvBatches c) (v : Nat → Int)
    (hv : ∀ i, i < B.nb → lookup c.fields (joinPath (B.bc i) "EntryHash") = .int (v i)) :
    (exec v_File_calculateEntryHash c [("IsADV", .bool true)]).2 = .ret (.int (leastSignificantDigits (advTotal B v) 10)) := by
  have h1 := advLoop_exec B (x := "hash") (by decide) hv [("IsADV", .bool true)]
  simp [file_calculateEntryHash_shape, fileHashProg, seqs, exec, eval, lookup, h1, scopeExit, builtin2]

theorem adv_file_isEntryHash_accepts (c : Ctx) (B : AdvBatches c) (v : Nat → Int) (cp : String) (e : Int)
    (hv : ∀ i, i < B.nb → lookup c.fields (joinPath (B.bc i) "EntryHash") = .int (v i))
    (hC : lookup c.fields (joinPath c.recv "ADVControl") = .ref cp)
    (he : lookup c.fields (joinPath cp "EntryHash") = .int e)
    (h : (exec v_File_isEntryHash c [("IsADV", .bool true)]).2 = .ret (.err none)) :
    e = leastSignificantDigits (advTotal B v) 10 := by
  rw [file_isEntryHash_shape] at h
  have hcalc := adv_file_calculateEntryHash_spec c B v hv
  by_cases heq : leastSignificantDigits (advTotal B v) 10 = e
  · exact heq.symm
  · simp [fileIsHashProg, seqs, exec, eval, lookup, hcalc, subResult, hC, he, cmpVals, scopeExit, heq] at h

theorem adv_file_isEntryAddendaCount_accepts (c : Ctx) (B : AdvBatches c) (v : Nat → Int) (cp : String) (e : Int)
    (hflag : hasFlag c "recv" "UnequalAddendaCounts" = false)
    (hv : ∀ i, i < B.nb → lookup c.fields (joinPath (B.bc i) "EntryAddendaCount") = .int (v i))
    (hC : lookup c.fields (joinPath c.recv "ADVControl") = .ref cp)
    (he : lookup c.fields (joinPath cp "EntryAddendaCount") = .int e)
    (h : (exec v_File_isEntryAddendaCount c [("IsADV", .bool true)]).2 = .ret (.err none)) :
    e = advTotal B v := by
  rw [file_isEntryAddendaCount_shape] at h
  have h1 := advLoop_exec B (x := "count") (by decide) hv [("IsADV", .bool true)]
  by_cases heq : e = advTotal B v
  · exact heq
  · simp [fileCountProg, fileCountGuard, seqs, exec, eval, lookup, h1, scopeExit, hC, he, cmpVals, hflag, heq] at h

theorem adv_file_isFileAmount_accepts (c : Ctx) (B : AdvBatches c) (db cr : Nat → Int) (cp : String) (td tc : Int)
    (h1d : ∀ i, i < B.nb → lookup c.fields (joinPath (B.bc i) "TotalDebitEntryDollarAmount") = .int (db i))
    (h1c : ∀ i, i < B.nb → lookup c.fields (joinPath (B.bc i) "TotalCreditEntryDollarAmount") = .int (cr i))
    (hC : lookup c.fields (joinPath c.recv "ADVControl") = .ref cp)
    (htd : lookup c.fields (joinPath cp "TotalDebitEntryDollarAmountInFile") = .int td)
    (htc : lookup c.fields (joinPath cp "TotalCreditEntryDollarAmountInFile") = .int tc)
    (h : (exec v_File_isFileAmount c [("IsADV", .bool true)]).2 = .ret (.err none)) :
    td = advTotal B db ∧ tc = advTotal B cr := by
  rw [file_isFileAmount_shape] at h
  have i1 := amtLoop_exec (v := "batch") (by decide) (by decide) B.hB B.hbc h1d h1c 0 0 [("IsADV", .bool true)]
  simp only [Int.zero_add] at i1
  unfold advTotal
  by_cases e1 : td = ((List.range B.nb).map db).sum <;> by_cases e2 : tc = ((List.range B.nb).map cr).sum
  · exact ⟨e1, e2⟩
  all_goals
    simp [fileAmountProg, totalGuard, seqs, exec, eval, lookup, i1, scopeExit, hC, htd, htc, cmpVals, e1, e2] at h

theorem file_validate_adv_outline :
    (stmts advPart).drop 2 = helperCall true v_File_isEntryAddendaCount :: helperCall true v_File_isFileAmount ::
      (stmts advPart).drop 4 ∧
    (stmts advPart).drop 4 = [helperCall true v_File_isEntryHash, .ret .nil] ∧
    ((stmts advPart).take 4).all (fun q => rejectOnly q && quiet q) = true :=
  ⟨rfl, rfl, rfl⟩

theorem accepted_adv_file_ran_helpers (c : Ctx) (hskip : hasFlag c "param" "SkipAll" = false)
    (hadv : (exec v_File_IsADV c []).2 = .ret (.bool true))
    (ha : run c v_File_ValidateWith = .accept) :
    (exec v_File_isEntryAddendaCount c [("IsADV", .bool true)]).2 = .ret (.err none) ∧
    (exec v_File_isFileAmount c [("IsADV", .bool true)]).2 = .ret (.err none) ∧
    (exec v_File_isEntryHash c [("IsADV", .bool true)]).2 = .ret (.err none) := by
  obtain ⟨pre, h⟩ := accepted_file_reaches_main c hskip ha
  have hb : exec mainBlock c pre = (pre, .next) := by
    rw [mainBlock, exec_callSwitch hadv]
    simp [exec, scopeExit]
  rw [exec_seq_next hb] at h
  obtain ⟨hd2, hd4, hall⟩ := file_validate_adv_outline
  exact helpers_passed (p := advPart) hd2 hd4 (by decide) hall h

/-- C03, ADV files — for every ADV file value (any number of ADV batches) on which `File.ValidateWith(opts)` — translated
from the source on this run — returns nil without `SkipAll`: the ADV file control's entry/addenda count (unless
`UnequalAddendaCounts`), debit total, credit total and entry hash are the sums over the ADV batch controls -/
theorem accepted_adv_file_control_sums (c : Ctx) (B : AdvBatches c) (cp : String) (cntB dbB crB hsB : Nat → Int)
    (cnt td tc hash : Int)
    (hskip : hasFlag c "param" "SkipAll" = false)
    (hadv : (exec v_File_IsADV c []).2 = .ret (.bool true))
    (hC : lookup c.fields (joinPath c.recv "ADVControl") = .ref cp)
    (h1 : ∀ i, i < B.nb → lookup c.fields (joinPath (B.bc i) "EntryAddendaCount") = .int (cntB i))
    (h3 : ∀ i, i < B.nb → lookup c.fields (joinPath (B.bc i) "TotalDebitEntryDollarAmount") = .int (dbB i))
    (h4 : ∀ i, i < B.nb → lookup c.fields (joinPath (B.bc i) "TotalCreditEntryDollarAmount") = .int (crB i))
    (h7 : ∀ i, i < B.nb → lookup c.fields (joinPath (B.bc i) "EntryHash") = .int (hsB i))
    (e1 : lookup c.fields (joinPath cp "EntryAddendaCount") = .int cnt)
    (e2 : lookup c.fields (joinPath cp "TotalDebitEntryDollarAmountInFile") = .int td)
    (e3 : lookup c.fields (joinPath cp "TotalCreditEntryDollarAmountInFile") = .int tc)
    (e4 : lookup c.fields (joinPath cp "EntryHash") = .int hash)
    (ha : run c v_File_ValidateWith = .accept) :
    (hasFlag c "recv" "UnequalAddendaCounts" = false → cnt = advTotal B cntB) ∧
    td = advTotal B dbB ∧ tc = advTotal B crB ∧ hash = leastSignificantDigits (advTotal B hsB) 10 := by
  obtain ⟨a1, a2, a3⟩ := accepted_adv_file_ran_helpers c hskip hadv ha
  obtain ⟨t1, t2⟩ := adv_file_isFileAmount_accepts c B dbB crB cp td tc h3 h4 hC e2 e3 a2
  exact ⟨fun hf => adv_file_isEntryAddendaCount_accepts c B cntB cp cnt hf h1 hC e1 a1, t1, t2,
    adv_file_isEntryHash_accepts c B hsB cp hash h7 hC e4 a3⟩

end Ach.Props.AcceptedFileADV
