import Ach.Proofs.GoLitePaths
import Ach.Generated.Validators
/-!
# `EntryDetail.addendaCount` counts every addenda record an entry holds (shared by C02, C05, C09)

`addendaCount` is what `Batch.build` puts into the control's entry/addenda count, what `isBatchEntryCount` compares and
what the merge line budget charges per entry.  It is translated from the source on every run
(`v_EntryDetail_addendaCount`); here it is shown to be — today — the counting program over the entry's seven addenda
fields (`addendaCount_is_count`, by evaluation), and every program of that form is shown to return the number of
non-nil addenda pointers plus the lengths of the addenda slices (`tailProg_spec`, `addendaCount_counts_records`): one
per record the Writer emits for the entry (`Ach.Props.Addenda`: the Writer walks the same fields).  A change that counts
two kinds once, skips a kind for some category, or returns early breaks the first obligation.
-/
namespace Ach.Props.AddendaCount
open Ach Ach.GoLite Ach.Gen

inductive Item where
  | ptr (f : String)
  | lst (f : String)
deriving DecidableEq, Repr

def bump : Prog := .assign "n" (.add (.var "n") (.int 1))

def itemStmt : Item → Prog
  | .ptr f => .ite (.ne (.fld f) .nil) bump .skip
  | .lst f => .forIdx "i" (.fld f) (.ite (.ne (.idx (.fld f) (.var "i")) .nil) bump .skip)

def tailProg (items : List Item) : Prog := seqs (items.map itemStmt ++ [.ret (.var "n")])

def countProg (items : List Item) : Prog := seqs [.bind "n" (.int 0), tailProg items]

/-- the addenda fields of a standard entry, in the order `addendaCount` walks them -/
def entryItems : List Item :=
  [.ptr "Addenda02", .lst "Addenda05", .ptr "Addenda98", .ptr "Addenda98Refused", .ptr "Addenda99",
   .ptr "Addenda99Dishonored", .ptr "Addenda99Contested"]

theorem addendaCount_is_count : v_EntryDetail_addendaCount = countProg entryItems := rfl

/-- records an item stands for: a non-nil pointer is one record, a slice of n records is n (Go skips nil elements of
the slice; a stored slice has none: the harness that writes stores gives up on one) -/
def itemVal (c : Ctx) : Item → Option Nat
  | .ptr f => match lookup c.fields (joinPath c.recv f) with
      | .ref _ => some 1
      | .nilp => some 0
      | _ => none
  | .lst f => match lookup c.fields (joinPath c.recv f) with
      | .lst _ n => some n
      | .nilp => some 0
      | _ => none

theorem seqs_cons (p : Prog) (ps : List Prog) (h : ps ≠ []) : seqs (p :: ps) = .seq p (seqs ps) :=
  seqs_cons_ne p ps h

theorem tailProg_cons (it : Item) (items : List Item) :
    tailProg (it :: items) = .seq (itemStmt it) (tailProg items) :=
  seqs_cons_ne _ _ (by simp)

theorem bump_exec (c : Ctx) (k : Int) : exec bump c [("n", .int k)] = ([("n", .int (k + 1))], .next) := by
  simp [bump, exec, eval, lookup, arith, update]

theorem bump_exec_i (c : Ctx) (j : Val) (k : Int) :
    exec bump c [("i", j), ("n", .int k)] = ([("i", j), ("n", .int (k + 1))], .next) := by
  simp [bump, exec, eval, lookup, arith, update]

/-- a loop whose body adds one to `n` for every index below m adds the number of indices -/
theorem iter_count (g : Locals → Locals × Sig) (m : Nat)
    (hg : ∀ j, j < m → ∀ k : Int, g [("i", .int j), ("n", .int k)] = ([("i", .int j), ("n", .int (k + 1))], .next)) :
    ∀ (is : List Nat), (∀ j ∈ is, j < m) → ∀ k : Int,
      iter g (fun j => .int j) "i" is [("n", .int k)] = ([("n", .int (k + is.length))], .next) := by
  intro is hb k
  rw [iter_fold g _ "i" (fun k : Int => [("n", .int k)]) (fun k _ => k + 1) is
    (fun j hj k => by simp [hg j (hb j hj) k, scopeExit]) k, foldl_add_sum (fun _ => 1)]
  simp [List.map_const']

def loopBody (f : String) : Prog := .ite (.ne (.idx (.fld f) (.var "i")) .nil) bump .skip

theorem loopBody_exec (c : Ctx) (f p : String) (m : Nat) (hf : lookup c.fields (joinPath c.recv f) = .lst p m)
    (j : Nat) (hj : j < m) (k : Int) :
    exec (loopBody f) c [("i", .int j), ("n", .int k)] = ([("i", .int j), ("n", .int (k + 1))], .next) := by
  have hcond : eval c [("i", Val.int j), ("n", Val.int k)] (.ne (.idx (.fld f) (.var "i")) .nil) = .bool true := by
    simp [eval, hf, lookup, cmpVals, hj]
  simp [loopBody, exec, hcond, bump_exec_i, scopeExit]

theorem exec_forIdx (i : String) (coll : Expr) (body : Prog) (c : Ctx) (l : Locals) :
    exec (.forIdx i coll body) c l =
      match eval c l coll with
      | .lst _ n => iter (fun l' => exec body c l') (fun k => .int k) i (List.range n) l
      | .nilp => (l, .next)
      | _ => (l, .stuck "range") := by
  rw [exec]
  rfl

theorem itemStmt_exec (c : Ctx) (it : Item) (v : Nat) (hv : itemVal c it = some v) (k : Int) :
    exec (itemStmt it) c [("n", .int k)] = ([("n", .int (k + v))], .next) := by
  cases it with
  | ptr f =>
      simp only [itemVal] at hv
      split at hv <;> cases hv <;> simp [itemStmt, exec, eval, cmpVals, bump_exec, scopeExit, *]
  | lst f =>
      simp only [itemVal] at hv
      split at hv <;> cases hv
      · next _ p hx =>
        -- the loop, whose body is `loopBody f`, runs over the `v` records of the slice
        rw [itemStmt, exec_forIdx_lst (p := p) (n := v) (by simp only [eval, hx])]
        exact (iter_count _ v (loopBody_exec c f p v hx) _ (fun j => List.mem_range.mp) k).trans (by simp)
      · next _ hx => simp [itemStmt, exec, eval, hx]

theorem tailProg_spec (c : Ctx) :
    ∀ (items : List Item) (vals : List Nat), items.map (itemVal c) = vals.map some → ∀ k : Int,
      (exec (tailProg items) c [("n", .int k)]).2 = .ret (.int (k + vals.sum)) := by
  intro items
  induction items with
  | nil =>
      intro vals hv k
      cases vals with
      | nil => simp [tailProg, seqs, exec, eval, lookup]
      | cons _ _ => simp at hv
  | cons it items ih =>
      intro vals hv k
      cases vals with
      | nil => simp at hv
      | cons v vs =>
          simp only [List.map_cons, List.cons.injEq] at hv
          rw [tailProg_cons, exec_seq_next (itemStmt_exec c it v hv.1 k), ih vs hv.2, List.sum_cons, Int.natCast_add,
            Int.add_assoc]

/-- C02 / C05 / C09: for every entry (whatever its category, SEC code or field values), `addendaCount()` is the number
of its non-nil addenda pointers plus the lengths of its addenda slices -/
theorem addendaCount_counts_records (c : Ctx) (vals : List Nat)
    (hv : entryItems.map (itemVal c) = vals.map some) :
    (exec v_EntryDetail_addendaCount c []).2 = .ret (.int vals.sum) := by
  rw [addendaCount_is_count]
  simp only [countProg, seqs, exec, eval]
  simpa using tailProg_spec c entryItems vals hv 0

/-- non-vacuity: an entry with an Addenda02, three Addenda05, an Addenda98 and a refused Addenda98 counts six -/
def sampleEntry : Ctx where
  fields := [("Addenda02", .ref "Addenda02"), ("Addenda05", .lst "Addenda05" 3), ("Addenda98", .ref "Addenda98"),
    ("Addenda98Refused", .ref "Addenda98Refused"), ("Addenda99", .nilp), ("Addenda99Dishonored", .nilp), ("Addenda99Contested", .nilp)]
  recvFlags := []
  paramFlags := []
  ext := []

example : (exec v_EntryDetail_addendaCount sampleEntry []).2 = .ret (.int 6) := by decide +kernel
example : entryItems.map (itemVal sampleEntry) = [1, 3, 1, 1, 0, 0, 0].map some := by decide +kernel

end Ach.Props.AddendaCount
