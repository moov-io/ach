import Ach.Proofs.GoLitePaths
import Ach.Props.Accepted
import Ach.Props.AcceptedHash
import Ach.Props.AcceptedAmounts
/-!
# IAT batches: entry hash, totals, and the entry's check digit (C03)

`IATBatch.verify` is a plain sequence of thirteen statements, the last `return nil`, the others able only to reject: an
accepting run passed each of them (`run_passes_nth iat_verify_statements`), and the clauses about IAT batches start
from there (the header/control comparisons apart, which `Accepted.accepted_iat_batch_header_control_agree` reads off the
spine).
`IATBatch.calculateEntryHash` walks the entries with the loop body of the standard batch (`hashBody`), `isEntryHash`
compares with the standard batch's guard (`hashGuard`), and `IATBatch.calculateBatchAmounts` is
`Batch.calculateBatchAmounts` itself (all shown by `rfl`), so the standard batch's lemmas apply; there is no ADV branch.
-/

namespace Ach.Props.AcceptedIAT
open Ach Ach.GoLite Ach.Gen
open Ach.Props.AcceptedHash Ach.Props.AcceptedAmounts

/-- today `IATBatch.verify` is: 0 the entries guard, 1 `isFieldInclusion`, 2–4 header against control, 5 the company
identification's characters, 6 `isBatchEntryCount`, 7 `isSequenceAscending`, 8 `isBatchAmount`, 9 `isEntryHash`,
10 `isTraceNumberODFI` and `isAddendaSequence`, 11 `isCategory`, 12 `return nil` -/
theorem iat_verify_statements :
    (stmts v_IATBatch_verify).length = 13 ∧
    (stmts v_IATBatch_verify).dropLast.all (fun q => rejectOnly q && noAssign q) = true := by
  decide +kernel

theorem iat_calculateEntryHash_shape :
    v_IATBatch_calculateEntryHash =
      seqs [(.bind "hash" (.int 0)), (.forEach "entry" (.fld "Entries") hashBody),
        (.ret (.call2 "leastSignificantDigits" (.var "hash") (.int 10)))] := rfl

theorem iat_calculateEntryHash_spec (c : Ctx) (p : String) (n : Nat) (r : Nat → Str) (hv : Nat → Int)
    (hE : lookup c.fields (joinPath c.recv "Entries") = .lst p n)
    (hr : ∀ i, i < n → lookup c.fields (joinPath (elemPath p i) "RDFIIdentification") = .str (r i))
    (hc : ∀ i, i < n → rdfiContribution c (r i) = some (hv i)) :
    (exec v_IATBatch_calculateEntryHash c []).2 = .ret (.int (leastSignificantDigits (((List.range n).map hv).sum) 10)) := by
  -- `hashBody` is `hashTurn "_t1"`
  have hloop : exec (.forEach "entry" (.fld "Entries") hashBody) c [("hash", .int 0)] = _ :=
    hashLoop_exec c "_t1" "Entries" (by decide) (fun a => [("hash", .int a)]) (fun _ => rfl) (fun _ _ => rfl) p n r hv
      hE hr hc
  rw [iat_calculateEntryHash_shape, exec_seqs_cons_next (exec_bind_int ..), exec_seqs_cons_next hloop]
  simp [seqs, exec, eval, lookup, builtin2]

theorem iat_isEntryHash_shape :
    v_IATBatch_isEntryHash =
      seqs [(seqs [(.sub "_t1" [] [] v_IATBatch_calculateEntryHash), (.bind "hashField" (.var "_t1"))]),
        hashGuard "Control", (.ret .nil)] := rfl

theorem iat_isEntryHash_accepts (c : Ctx) {cp : String} {H e : Int}
    (hC : lookup c.fields (joinPath c.recv "Control") = .ref cp)
    (he : lookup c.fields (joinPath cp "EntryHash") = .int e)
    (hcalc : (exec v_IATBatch_calculateEntryHash c []).2 = .ret (.int H))
    (h : (exec v_IATBatch_isEntryHash c []).2 = .ret (.err none)) : e = H := by
  have e1 : exec (seqs [(.sub "_t1" [] [] v_IATBatch_calculateEntryHash), (.bind "hashField" (.var "_t1"))]) c [] =
      ([("hashField", .int H), ("_t1", .int H)], .next) := by
    simp [seqs, exec, eval, hcalc, subResult, lookup]
  rw [iat_isEntryHash_shape, exec_seqs_cons_next e1] at h
  exact hashGuard_next c (by simp [lookup]) hC he (accept_seq_left rfl h)

theorem iat_calculateBatchAmounts_shape : v_IATBatch_calculateBatchAmounts = v_Batch_calculateBatchAmounts := rfl

theorem iat_isBatchAmount_shape :
    v_IATBatch_isBatchAmount =
      seqs [(seqs [(.sub "_t1" [] [] v_IATBatch_calculateBatchAmounts), (.bind2 "credit" "debit" (.var "_t1"))]),
        (.ite (.ne (.var "debit") (.sel (.fld "Control") "TotalDebitEntryDollarAmount"))
          (.ret (.mkErr "TotalDebitEntryDollarAmount")) .skip),
        (.ite (.ne (.var "credit") (.sel (.fld "Control") "TotalCreditEntryDollarAmount"))
          (.ret (.mkErr "TotalCreditEntryDollarAmount")) .skip),
        (.ret .nil)] := rfl

theorem iat_isBatchAmount_accepts (c : Ctx) {cp : String} {C D tcr tdb : Int}
    (hC : lookup c.fields (joinPath c.recv "Control") = .ref cp)
    (hcr : lookup c.fields (joinPath cp "TotalCreditEntryDollarAmount") = .int tcr)
    (hdb : lookup c.fields (joinPath cp "TotalDebitEntryDollarAmount") = .int tdb)
    (hcalc : (exec v_IATBatch_calculateBatchAmounts c []).2 = .ret (.pair (.int C) (.int D)))
    (h : (exec v_IATBatch_isBatchAmount c []).2 = .ret (.err none)) : tcr = C ∧ tdb = D := by
  have e1 : exec (seqs [(.sub "_t1" [] [] v_IATBatch_calculateBatchAmounts), (.bind2 "credit" "debit" (.var "_t1"))]) c [] =
      ([("debit", .int D), ("credit", .int C), ("_t1", .pair (.int C) (.int D))], .next) := by
    simp [seqs, exec, eval, hcalc, subResult, lookup]
  rw [iat_isBatchAmount_shape, exec_seqs_cons_next e1] at h
  obtain ⟨hd, e2⟩ := guard_next (accept_seq_left rfl h)
  rw [exec_seqs_cons_next e2] at h
  have hc := (guard_next (accept_seq_left rfl h)).1
  simp [eval, lookup, hC, hcr, hdb, cmpVals] at hd hc
  exact ⟨hc.symm, hd.symm⟩

/-- C03, IAT batches — for every IAT batch value, of any size: if `IATBatch.verify()` (translated from the source on this
run) returns nil, the control's debit and credit totals are the sums of the entries' amounts by transaction code and its
entry hash is the ten least significant digits of the sum of the numbers read from the routing numbers -/
theorem accepted_iat_batch_totals_and_hash (c : Ctx) (cp p : String) (n : Nat) (tc am : Nat → Int) (r : Nat → Str)
    (hv : Nat → Int) (tcr tdb e : Int)
    (hC : lookup c.fields (joinPath c.recv "Control") = .ref cp)
    (hcr : lookup c.fields (joinPath cp "TotalCreditEntryDollarAmount") = .int tcr)
    (hdb : lookup c.fields (joinPath cp "TotalDebitEntryDollarAmount") = .int tdb)
    (he : lookup c.fields (joinPath cp "EntryHash") = .int e)
    (hE : lookup c.fields (joinPath c.recv "Entries") = .lst p n)
    (ht : ∀ i, i < n → lookup c.fields (joinPath (elemPath p i) "TransactionCode") = .int (tc i))
    (ham : ∀ i, i < n → lookup c.fields (joinPath (elemPath p i) "Amount") = .int (am i))
    (hr : ∀ i, i < n → lookup c.fields (joinPath (elemPath p i) "RDFIIdentification") = .str (r i))
    (hc : ∀ i, i < n → rdfiContribution c (r i) = some (hv i))
    (ha : run c v_IATBatch_verify = .accept) :
    tcr = ((List.range n).map (fun i => creditPart (tc i) (am i))).sum ∧
    tdb = ((List.range n).map (fun i => debitPart (tc i) (am i))).sum ∧
    e = leastSignificantDigits (((List.range n).map hv).sum) 10 := by
  obtain ⟨t1, t2⟩ := iat_isBatchAmount_accepts c hC hcr hdb
    (iat_calculateBatchAmounts_shape ▸ calculateBatchAmounts_spec c p n tc am hE ht ham)
    (run_passes_check iat_verify_statements.2 ha (k := 8) rfl)
  exact ⟨t1, t2, iat_isEntryHash_accepts c hC he (iat_calculateEntryHash_spec c p n r hv hE hr hc)
    (run_passes_check iat_verify_statements.2 ha (k := 9) rfl)⟩

/-- `IATEntryDetail.Validate` ends with the check-digit statements of `EntryDetail.Validate` (outside any option guard)
and `return nil`, and everything before them can only reject -/
theorem iat_entry_validate_ends_with_check_digit :
    stmts v_IATEntryDetail_Validate =
      Ach.Props.Accepted.frontOf v_IATEntryDetail_Validate 5 ++ (stmts Ach.Props.Accepted.checkDigitStmts ++ [.ret .nil]) ∧
    (Ach.Props.Accepted.frontOf v_IATEntryDetail_Validate 5).all (fun q => rejectOnly q && noAssign q) = true :=
  ⟨rfl, by decide +kernel⟩

/-- C03, IAT — every IAT entry value on which `IATEntryDetail.Validate()` (translated from the source on this run) returns
nil carries the check digit computed from the first eight characters of its routing number (no option switches this off
for IAT entries) -/
theorem accepted_iat_entry_check_digit (c : Ctx) (rdfi cd : Str)
    (hr : lookup c.fields (joinPath c.recv "RDFIIdentification") = .str rdfi)
    (hc : lookup c.fields (joinPath c.recv "CheckDigit") = .str cd)
    (ha : run c v_IATEntryDetail_Validate = .accept) :
    atoi cd = some (calculateCheckDigit (stringField rdfi 8)) := by
  obtain ⟨hs, hall⟩ := iat_entry_validate_ends_with_check_digit
  obtain ⟨pre, h⟩ := accept_reaches c _ _ _ hs (by simp) hall (run_accept.mp ha)
  rw [exec_seqs_snoc, seqs_stmts] at h
  exact Ach.Props.Accepted.checkDigitStmts_next c pre rdfi cd hr hc (accept_seq_left rfl h)

end Ach.Props.AcceptedIAT
