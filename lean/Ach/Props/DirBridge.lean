import Ach.Props.AcceptedServiceClass
import Ach.Model.Validate
/-!
# The hand model's direction function is the translated `EntryDetail.CreditOrDebit`

`Ach.creditOrDebit` (Model/Codes.lean) is used by the hand-written validation model (C03), by the segmentation model
(C11) and by the reversal model (C13) to say which way an entry moves money.  Here it is shown to be, for **every**
integer transaction code (not only the two-digit ones), the value the function `EntryDetail.CreditOrDebit` returns **as
translated from the source on this run**.
-/
namespace Ach.Props.DirBridge
open Ach Ach.GoLite Ach.Gen Ach.Props.AcceptedServiceClass

/-- the Go string a direction stands for -/
def dirStr : Dir → Str
  | .credit => ['C']
  | .debit => ['D']
  | .neither => []

theorem dirStr_injective (a b : Dir) (h : dirStr a = dirStr b) : a = b := by
  cases a <;> cases b <;> simp [dirStr] at h <;> rfl

theorem dirStr_eq_iff (a b : Dir) : dirStr a = dirStr b ↔ a = b := ⟨dirStr_injective a b, fun h => h ▸ rfl⟩

/-- on two-digit codes the model function and the closed form proved of the translation agree -/
theorem model_dir_two_digit (t : Int) (h10 : 10 ≤ t) (h99 : t ≤ 99) :
    dirStr (creditOrDebit t) = creditOrDebitOf t := by
  have h1 : ¬ t < 10 := by omega
  have h2 : ¬ t > 99 := by omega
  have h9 : t % 10 ≤ 9 := by omega
  unfold creditOrDebit creditOrDebitOf
  by_cases hc : 1 ≤ t % 10 ∧ t % 10 ≤ 4
  · simp [h1, h2, hc, dirStr]
  · by_cases hd : 5 ≤ t % 10 <;> simp [h1, h2, hc, hd, h9, dirStr]

/-- a code outside 10..99: the translated function returns "" at its first statement -/
theorem creditOrDebit_exec_out (c : Ctx) (t : Int) (hout : t < 10 ∨ t > 99)
    (ht : lookup c.fields (joinPath c.recv "TransactionCode") = .int t) :
    (exec v_EntryDetail_CreditOrDebit c []).2 = .ret (.str []) := by
  rcases hout with h | h
  · simp [v_EntryDetail_CreditOrDebit, seqs, exec, eval, ht, cmpVals, h]
  · have h1 : ¬ t < 10 := by omega
    simp [v_EntryDetail_CreditOrDebit, seqs, exec, eval, ht, cmpVals, h, h1]

/-- **the model's direction is the code's direction**, for every integer transaction code: the translated
`EntryDetail.CreditOrDebit`, run on an entry whose `TransactionCode` is `t`, returns the string of `Ach.creditOrDebit t` -/
theorem code_dir_is_model_dir (c : Ctx) (t : Int)
    (ht : lookup c.fields (joinPath c.recv "TransactionCode") = .int t) :
    (exec v_EntryDetail_CreditOrDebit c []).2 = .ret (.str (dirStr (creditOrDebit t))) := by
  by_cases hin : 10 ≤ t ∧ t ≤ 99
  · rw [model_dir_two_digit t hin.1 hin.2]
    exact creditOrDebit_exec c t hin.1 hin.2 ht
  · have hout : t < 10 ∨ t > 99 := by omega
    rw [creditOrDebit_exec_out c t hout ht, creditOrDebit, if_pos (by simpa using hout)]
    rfl

/-- on a two-digit code the closed form in which `accepted_batch_service_class` speaks is "C" / "D" exactly when the
model's direction is credit / debit — read with that theorem: an accepted credits-only (220) batch holds only entries the
*model* calls credits, and a debits-only (225) batch only debits -/
theorem accepted_service_class_in_model_terms (t : Int) (h10 : 10 ≤ t) (h99 : t ≤ 99) :
    (creditOrDebitOf t = ['C'] ↔ creditOrDebit t = .credit) ∧ (creditOrDebitOf t = ['D'] ↔ creditOrDebit t = .debit) := by
  rw [← model_dir_two_digit t h10 h99]
  exact ⟨dirStr_eq_iff _ .credit, dirStr_eq_iff _ .debit⟩

/-- non-vacuity: 22 is a credit, 27 a debit, 20 and 7 and 122 neither, and the code says the same -/
example : creditOrDebit 22 = .credit ∧ creditOrDebit 27 = .debit ∧ creditOrDebit 20 = .neither ∧
    creditOrDebit 7 = .neither ∧ creditOrDebit 122 = .neither := by decide
example : (exec v_EntryDetail_CreditOrDebit (codCtx 122) []).2 = .ret (.str []) := by decide +kernel

/-- the constants the model's `classOK` reads are the literals of the translated switch -/
theorem classOK_constants :
    advCreditCodes ++ advDebitCodes = [81, 83, 85, 87, 82, 84, 86, 88] ∧ K.AutomatedAccountingAdvices = 280 ∧
    K.MixedDebitsAndCredits = 200 ∧ K.CreditsOnly = 220 ∧ K.DebitsOnly = 225 := by decide

/-- the model's per-entry service-class check, as a function of the two numbers it reads -/
def classOKOf (s t : Int) : Bool :=
  !(advCreditCodes.contains t || advDebitCodes.contains t) &&
  (if s = K.AutomatedAccountingAdvices then false
   else if s = K.MixedDebitsAndCredits then true
   else if s = K.CreditsOnly then creditOrDebit t == .credit
   else if s = K.DebitsOnly then creditOrDebit t == .debit
   else true)

theorem classOK_eq (s : Int) (e : VEntry) : classOK s e = classOKOf s e.code := rfl

/-- **the model's `classOK` decides exactly what the code decides** (both directions, every service class code and every
integer transaction code): without a `CheckTransactionCode` callback the translated
`Batch.ValidTranCodeForServiceClassCode(entry)` returns nil if and only if `classOK` holds -/
theorem code_classOK_is_model_classOK (c : Ctx) (ep hp : String) (t s : Int)
    (hflag : hasFlag c "recv" "CheckTransactionCode" = false)
    (ht : lookup c.fields (joinPath ep "TransactionCode") = .int t)
    (hH : lookup c.fields (joinPath c.recv "Header") = .ref hp)
    (hs : lookup c.fields (joinPath hp "ServiceClassCode") = .int s) :
    (exec v_Batch_ValidTranCodeForServiceClassCode c [("entry", .ref ep)]).2 = .ret (.err none) ↔ classOKOf s t = true := by
  rw [validTranCode_nil_iff hflag ht hH hs (code_dir_is_model_dir { c with recv := ep } t ht)]
  obtain ⟨hadv, h280, h200, h220, h225⟩ := classOK_constants
  have hmem : (advCreditCodes.contains t || advDebitCodes.contains t) = decide (t ∈ advCodes) := by
    rw [advCodes, ← hadv]; simp
  rw [classOKOf, hmem, h280, h200, h220, h225]
  -- the model compares directions where the code compares their strings
  have hC : ∀ d, dirStr d = ['C'] ↔ d = .credit := fun d => dirStr_eq_iff d .credit
  have hD : ∀ d, dirStr d = ['D'] ↔ d = .debit := fun d => dirStr_eq_iff d .debit
  simp only [hC, hD]
  grind

/-- non-vacuity: a 220 batch takes 22 and refuses 27, a 200 batch refuses 82, a 280 header refuses 22, a 225 batch takes 27 -/
example : classOKOf 220 22 = true ∧ classOKOf 220 27 = false ∧ classOKOf 200 82 = false ∧ classOKOf 280 22 = false ∧
    classOKOf 225 27 = true := by decide

open Ach.Props.AcceptedFileBatches

/-- C03, service class, in the model's terms and **without** the two-digit assumption of
`accepted_batch_service_class`: for the 20 shaped classes and a batch of any size, if `BatchXXX.Validate()` (translated
from the source on this run) returns nil and no `CheckTransactionCode` callback is set, the model's `classOK` holds of
every entry — whatever integers the transaction codes are -/
theorem accepted_batch_classOK (name : String) (P : Prog) (hm : (name, P) ∈ dispatchTable)
    (hshaped : name ∈ shapedClasses) (c : Ctx) (hp p : String) (n : Nat) (tc : Nat → Int) (s : Int)
    (hflag : hasFlag c "recv" "CheckTransactionCode" = false)
    (hH : lookup c.fields (joinPath c.recv "Header") = .ref hp)
    (hs : lookup c.fields (joinPath hp "ServiceClassCode") = .int s)
    (hE : lookup c.fields (joinPath c.recv "Entries") = .lst p n)
    (ht : ∀ i, i < n → lookup c.fields (joinPath (elemPath p i) "TransactionCode") = .int (tc i))
    (ha : run c P = .accept) :
    ∀ i, i < n → classOKOf s (tc i) = true := by
  intro i hi
  have hcall := svc_checked P (shaped_validator hm hshaped) c p n hE (run_accept.mp ha) i hi
  exact (code_classOK_is_model_classOK c (elemPath p i) hp (tc i) s hflag (ht i hi) hH hs).mp hcall

end Ach.Props.DirBridge
