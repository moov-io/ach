import Ach.Proofs.Merge
import Ach.Props.C05
/-!
# C09 — merged files are valid and respect the line and dollar limits

On the merge model (`Ach.Model.Merge`, see C08):

* `merge_lines_bounded` — for every accumulated state and every `MaxLines` (0 = unlimited, or ≥ 2; the API admits 0 or ≥ 5)
  each file `convertToFiles` writes has at most `MaxLines` records (file header/control, batch headers/controls, entries,
  addenda — the 9-filler excluded), unless it holds a single entry;  proved through a loop invariant relating the code's
  running counter (`currentFileLineCount`, incremented by 2 per batch *before* its first entry, reset to 4 on overflow)
  to the real size of the file being assembled;
* `merge_traces_ascending` — inside every accumulated batch trace numbers are unique and strictly ascending (the ordered
  map invariant), for every input list;
* `merge_outputs_keep_order` — output batches are consecutive runs of those ordered entries (`convert_conserves`).

* `merge_dollars_bounded` — the same loop with its exact dollar counter: the entry amounts of every written file sum to
  at most `MaxDollarAmount` (whenever that is positive; `convertToFiles` forces 0 and anything above the Nacha limit to
  the Nacha limit), unless the file holds a single entry;
* `merge_one_file_when_unlimited` — if a route's accumulated batches fit under both limits (lines as the code counts
  them: 2 per batch even when it has no entries) and no amount is negative, exactly the route's entries end up in at most
  one file; with `C08.merge_separates_routes` that is one file per origin/destination pair;
* `merge_equal_headers_share_batch` — two accumulated batches with equal headers exist only because of trace collisions:
  every entry of the later one has a trace number the earlier one already holds.

Validity of each output batch/file (`Create` tabulates, C05 `build_controls`) is not re-proved on this abstract model; the
oracle checks it on the real outputs.  `Ach.Props.C05` is imported for that reason alone: nothing below uses it, but this
property rests on it, and its check is to fail when C05 no longer builds.
-/
namespace Ach.Props.C09
open Ach.Merge

-- `hmax` is not needed: the loop invariant (`Outer`) asks nothing of a file that is still empty
set_option linter.unusedVariables false in
theorem merge_lines_bounded (c : Cond) (hmax : c.maxLines = 0 ∨ 2 ≤ c.maxLines) (fs : List InFile) :
    ∀ o ∈ addFiles fs [], ∀ f ∈ convertOne c o,
      c.maxLines = 0 ∨ wfileLines f ≤ c.maxLines ∨ (wfileEntries f).length = 1 :=
  fun o _ f hf => (convertOne_good c o f hf).elim (fun h => h.1.imp_right .inl) fun h => .inr (.inr h)

theorem merge_traces_ascending (fs : List InFile) : ∀ o ∈ addFiles fs [], ∀ b ∈ o.batches, StrictAsc b.entries :=
  addFiles_batches (P := fun bs => ∀ b ∈ bs, StrictAsc b.entries) (List.forall_mem_nil _) place_sorted fs [] (List.forall_mem_nil _)

theorem merge_outputs_keep_order (c : Cond) (o : OutFile) :
    (convertOne c o).flatMap wfileEntries = o.batches.flatMap (·.entries) := convertOne_entries c o

theorem merge_dollars_bounded (c : Cond) (fs : List InFile) :
    ∀ o ∈ addFiles fs [], ∀ f ∈ convertOne c o,
      c.maxDollars ≤ 0 ∨ wfileDollars f ≤ c.maxDollars ∨ (wfileEntries f).length = 1 :=
  fun o _ f hf => (convertOne_good c o f hf).elim (fun h => h.2.imp_right .inl) fun h => .inr (.inr h)

theorem merge_one_file_when_unlimited (c : Cond) (o : OutFile) (hpos : ∀ b ∈ o.batches, ∀ e ∈ b.entries, 0 ≤ e.amount)
    (hl : c.maxLines = 0 ∨ 2 + countedLines o.batches ≤ c.maxLines)
    (hd : c.maxDollars ≤ 0 ∨ totalAmt o.batches ≤ c.maxDollars) :
    (convertOne c o).length ≤ 1 ∧ (convertOne c o).flatMap wfileEntries = o.batches.flatMap (·.entries) :=
  ⟨convertOne_single c o hpos ⟨hl, hd⟩, convertOne_entries c o⟩

theorem merge_equal_headers_share_batch (fs : List InFile) :
    ∀ o ∈ addFiles fs [], o.batches.Pairwise (fun a b => a.key = b.key → ∀ x ∈ b.entries, contains x.trace a.entries = true) :=
  addFiles_batches (P := List.Pairwise Spill) .nil place_pairwise fs [] (List.forall_mem_nil _)

/-- non-vacuity: a dollar limit of 25 splits four 10-dollar entries into files of 20 and 20; without limits one file;
two equal-header input batches whose traces collide give two accumulated batches, the second holding only the collisions -/
example : (convertOne ⟨0, 25⟩ ⟨(1, 2), [⟨7, [⟨1, 1, 10, 0⟩, ⟨2, 1, 10, 1⟩, ⟨3, 1, 10, 2⟩, ⟨4, 1, 10, 3⟩]⟩]⟩).map wfileDollars = [20, 20] ∧
    (convertOne ⟨0, 1000⟩ ⟨(1, 2), [⟨7, [⟨1, 1, 10, 0⟩, ⟨2, 1, 10, 1⟩]⟩, ⟨8, [⟨1, 1, 10, 2⟩]⟩]⟩).length = 1 ∧
    (addFiles [⟨(1, 2), [⟨7, [⟨1, 1, 10, 0⟩, ⟨2, 1, 10, 1⟩]⟩, ⟨7, [⟨2, 1, 5, 2⟩, ⟨3, 1, 5, 3⟩]⟩]⟩] []).map (·.batches.map (·.entries.map (·.payload))) =
      [[[0, 1, 3], [2]]] := by
  decide +kernel

/-- non-vacuity: MaxLines = 7 splits a 4-entry batch into files of 7 and 5 records -/
example : (convertOne ⟨7, 1000000⟩ ⟨(1, 2), [⟨7, [⟨1, 1, 10, 0⟩, ⟨2, 1, 10, 1⟩, ⟨3, 1, 10, 2⟩, ⟨4, 1, 10, 3⟩]⟩]⟩).map wfileLines = [7, 5] := by
  decide +kernel

end Ach.Props.C09
