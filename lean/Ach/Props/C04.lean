import Ach.Proofs.Tamper
import Ach.Props.C03
import Ach.Props.Dispatch
/-!
# C04 — tampered or truncated files are never accepted as something else

Single-digit tampering, by field class (the protected fields of the property):

* routing number / check digit — `routing_digit_flip_detected`, `check_digit_flip_detected`: the 3-7-1 weights are units
  modulo 10, so changing any one of the eight routing digits, or the check digit, breaks the equality the entry
  validator tests; for *every* digit position and replacement (algebra, not enumeration);
* every numeric field is fixed-width decimal — `digit_flip_changes_number`: a changed digit is a changed number;
* amounts — `tamper_amount_rejected`: a changed amount changes the batch total that the (unchanged) control is compared with;
* batch control and header fields — `tamper_batch_control_rejected`, `tamper_batch_header_rejected`;
* file control fields — `tamper_file_control_rejected`;
* IAT batches — `tamper_iat_amount_rejected`, `tamper_iat_batch_control_rejected`, `tamper_iat_batch_header_rejected`
  (the Reader validates an IAT batch with `IATBatch.verify` at its control record).

All on the validation model of C03 (`batchValidate {}`, `fileValidate {}`), which is what the Reader runs for every
batch at its control record and `File.Validate` runs for the file control; the batch-level results go through
`Ach.Balanced`, the agreement of control record, header and entries that both batch validators establish.  The step
from "column changed in the text" to "field value changed" is the layout theorem of C01 (each protected field is a
`num`/`raw` span) together with `digit_flip_changes_number`.

Truncation (`no proper prefix of the text is accepted as a different file`), on the Reader's dispatcher model
(`Ach.ReaderSM`, facts and correspondence in `Ach.Props.Dispatch`), by where the cut falls in a written file
`header, batches…, file control, 9-filler…`:

* before the file control record, at a record boundary or inside a record — `truncated_before_control_rejected`:
  what is left holds no file control record (a cut record keeps its first column), so `Read` reports `ErrFileControl`;
* inside the file control record — `truncated_inside_control`: the Reader returns the same tree with the cut record as
  its control, and then either the record or the file fails validation or every integrity field still has its value —
  `truncated_control_rejected_or_same`; a cut at or before the end of the entry/addenda count (columns 14-21,
  `file_control_columns`) always changes that count, which is positive in a valid file — `truncated_count_differs`;
* after the file control — `truncated_in_filler_same_or_rejected`: filler records are not part of the file; a filler cut
  after its first column reads as a second file control and is refused.

The oracle additionally enumerates every truncation offset of every sampled file against the real Reader.
-/
namespace Ach.Props.C04
open Ach.Gen

/-- the check digit `roundUp10 s - s` is the complement of `s % 10` -/
private theorem checkDigit_of_sum_ne {s s' : Nat} (h : s % 10 ≠ s' % 10) : roundUp10 s - s ≠ roundUp10 s' - s' := by
  rw [C03.roundUp10_eq, C03.roundUp10_eq, Nat.add_sub_cancel_left, Nat.add_sub_cancel_left]
  omega

/-- a changed routing digit changes the computed check digit (any of the 8 positions, any replacement digit) -/
theorem routing_digit_flip_detected (d0 d1 d2 d3 d4 d5 d6 d7 x : Nat) (hx : x ≤ 9)
    (h0 : d0 ≤ 9) (h1 : d1 ≤ 9) (h2 : d2 ≤ 9) (h3 : d3 ≤ 9) (h4 : d4 ≤ 9) (h5 : d5 ≤ 9) (h6 : d6 ≤ 9) (h7 : d7 ≤ 9) :
    let cd := fun l => roundUp10 (weightedSum l) - weightedSum l
    (x ≠ d0 → cd [x, d1, d2, d3, d4, d5, d6, d7] ≠ cd [d0, d1, d2, d3, d4, d5, d6, d7]) ∧
    (x ≠ d1 → cd [d0, x, d2, d3, d4, d5, d6, d7] ≠ cd [d0, d1, d2, d3, d4, d5, d6, d7]) ∧
    (x ≠ d2 → cd [d0, d1, x, d3, d4, d5, d6, d7] ≠ cd [d0, d1, d2, d3, d4, d5, d6, d7]) ∧
    (x ≠ d3 → cd [d0, d1, d2, x, d4, d5, d6, d7] ≠ cd [d0, d1, d2, d3, d4, d5, d6, d7]) ∧
    (x ≠ d4 → cd [d0, d1, d2, d3, x, d5, d6, d7] ≠ cd [d0, d1, d2, d3, d4, d5, d6, d7]) ∧
    (x ≠ d5 → cd [d0, d1, d2, d3, d4, x, d6, d7] ≠ cd [d0, d1, d2, d3, d4, d5, d6, d7]) ∧
    (x ≠ d6 → cd [d0, d1, d2, d3, d4, d5, x, d7] ≠ cd [d0, d1, d2, d3, d4, d5, d6, d7]) ∧
    (x ≠ d7 → cd [d0, d1, d2, d3, d4, d5, d6, x] ≠ cd [d0, d1, d2, d3, d4, d5, d6, d7]) := by
  intro cd
  let ds := [d0, d1, d2, d3, d4, d5, d6, d7]
  have flip (i d : Nat) (hd : d ≤ 9) (hi : i < 8 := by decide) (h : x ≠ d) :
      cd (ds.take i ++ x :: ds.drop (i + 1)) ≠ cd (ds.take i ++ d :: ds.drop (i + 1)) :=
    checkDigit_of_sum_ne
      (weightedSum_flip _ _ x d (Nat.lt_of_le_of_lt (List.length_take_le i ds) hi) hx hd h)
  exact ⟨flip 0 d0 h0, flip 1 d1 h1, flip 2 d2 h2, flip 3 d3 h3, flip 4 d4 h4, flip 5 d5 h5, flip 6 d6 h6, flip 7 d7 h7⟩

/-- a changed check digit no longer equals the computed one -/
theorem check_digit_flip_detected (n d d' : Nat) (hd : d ≤ 9) (hd' : d' ≤ 9) (hne : d ≠ d')
    (h : roundUp10 n - n = d) : roundUp10 n - n ≠ d' := h ▸ hne

/-- a fixed-width decimal field with one digit changed denotes a different number -/
theorem digit_flip_changes_number (pre post : Str) (a b : Char) (hne : digitVal a ≠ digitVal b) :
    digitsVal (pre ++ a :: post) ≠ digitsVal (pre ++ b :: post) := Ach.digit_flip_changes_number pre post a b hne

private theorem bne_of_ne {a b : Bool} (h : a = true) (h' : b ≠ true) : a ≠ b := by
  intro e; rw [e] at h; exact h' h

private theorem balanced_of_batchValidate {b : VBatch} (h : batchValidate {} b = true) :
    Balanced creditCodes debitCodes b :=
  have ⟨h1, h2, h3, h4, h5, h6, h7, _⟩ := C03.validate_sound_batch b h
  ⟨h1, h2, h3, h4, h5, h6, h7⟩

private theorem balanced_of_iatBatchValidate {b : VBatch} (h : iatBatchValidate {} b = true) :
    Balanced iatCreditCodes iatDebitCodes b :=
  have ⟨h1, h2, h3, h4, h5, h6, h7, _⟩ := C03.validate_sound_iat_batch b h
  ⟨h1, h2, h3, h4, h5, h6, h7⟩

/-- **tamper_amount_rejected**: in an accepted batch, changing the amount of any entry whose code is tallied
(every standard code is) makes the batch rejected — the control still holds the old total -/
theorem tamper_amount_rejected (b : VBatch) (pre post : List VEntry) (e : VEntry) (a' : Int)
    (hb : b.entries = pre ++ e :: post) (hacc : batchValidate {} b = true) (hne : a' ≠ e.amount)
    (hcls : creditCodes.contains e.code = true ∨ debitCodes.contains e.code = true) :
    batchValidate {} { b with entries := pre ++ { e with amount := a' } :: post } = false :=
  Bool.eq_false_iff.2 fun hv => (balanced_of_batchValidate hacc).amount_ne hb hne hcls (balanced_of_batchValidate hv)

/-- **tamper_batch_control_rejected**: in an accepted batch, changing the control's service class, count, hash,
totals, ODFI or batch number (everything else unchanged) makes the batch rejected -/
theorem tamper_batch_control_rejected (b : VBatch) (c' : VControl) (hacc : batchValidate {} b = true)
    (hne : c'.serviceClass ≠ b.control.serviceClass ∨ c'.entryAddendaCount ≠ b.control.entryAddendaCount ∨
      c'.entryHash ≠ b.control.entryHash ∨ c'.totalDebit ≠ b.control.totalDebit ∨ c'.totalCredit ≠ b.control.totalCredit ∨
      c'.odfi ≠ b.control.odfi ∨ c'.batchNumber ≠ b.control.batchNumber) :
    batchValidate {} { b with control := c' } = false :=
  Bool.eq_false_iff.2 fun hv => (balanced_of_batchValidate hacc).control_ne hne (balanced_of_batchValidate hv)

/-- **tamper_batch_header_rejected**: changing the header's ODFI or batch number is detected through the control -/
theorem tamper_batch_header_rejected (b : VBatch) (h' : VHeader) (hacc : batchValidate {} b = true)
    (hne : h'.odfi ≠ b.header.odfi ∨ h'.batchNumber ≠ b.header.batchNumber) :
    batchValidate {} { b with header := h' } = false :=
  Bool.eq_false_iff.2 fun hv => (balanced_of_batchValidate hacc).header_ne (.inr hne) (balanced_of_batchValidate hv)

/-! ### the same for IAT batches (`iatBatchValidate`, what the Reader runs at an IAT batch's control record) -/

theorem tamper_iat_amount_rejected (b : VBatch) (pre post : List VEntry) (e : VEntry) (a' : Int)
    (hb : b.entries = pre ++ e :: post) (hacc : iatBatchValidate {} b = true) (hne : a' ≠ e.amount)
    (hcls : iatCreditCodes.contains e.code = true ∨ iatDebitCodes.contains e.code = true) :
    iatBatchValidate {} { b with entries := pre ++ { e with amount := a' } :: post } = false :=
  Bool.eq_false_iff.2 fun hv =>
    (balanced_of_iatBatchValidate hacc).amount_ne hb hne hcls (balanced_of_iatBatchValidate hv)

theorem tamper_iat_batch_control_rejected (b : VBatch) (c' : VControl) (hacc : iatBatchValidate {} b = true)
    (hne : c'.serviceClass ≠ b.control.serviceClass ∨ c'.entryAddendaCount ≠ b.control.entryAddendaCount ∨
      c'.entryHash ≠ b.control.entryHash ∨ c'.totalDebit ≠ b.control.totalDebit ∨ c'.totalCredit ≠ b.control.totalCredit ∨
      c'.odfi ≠ b.control.odfi ∨ c'.batchNumber ≠ b.control.batchNumber) :
    iatBatchValidate {} { b with control := c' } = false :=
  Bool.eq_false_iff.2 fun hv => (balanced_of_iatBatchValidate hacc).control_ne hne (balanced_of_iatBatchValidate hv)

theorem tamper_iat_batch_header_rejected (b : VBatch) (h' : VHeader) (hacc : iatBatchValidate {} b = true)
    (hne : h'.odfi ≠ b.header.odfi ∨ h'.batchNumber ≠ b.header.batchNumber) :
    iatBatchValidate {} { b with header := h' } = false :=
  Bool.eq_false_iff.2 fun hv => (balanced_of_iatBatchValidate hacc).header_ne (.inr hne) (balanced_of_iatBatchValidate hv)

/-- **tamper_file_control_rejected**: changing the file control's batch count, entry/addenda count, hash or totals -/
theorem tamper_file_control_rejected (f : VFile) (c' : VFileControl) (hacc : fileValidate {} f = true)
    (hne : c'.batchCount ≠ f.control.batchCount ∨ c'.entryAddendaCount ≠ f.control.entryAddendaCount ∨
      c'.entryHash ≠ f.control.entryHash ∨ c'.totalDebit ≠ f.control.totalDebit ∨ c'.totalCredit ≠ f.control.totalCredit) :
    fileValidate {} { f with control := c' } = false := by
  refine Bool.eq_false_iff.2 fun hv => ?_
  obtain ⟨h1, h2, h3, h4, h5, _⟩ := C03.validate_sound_file_partial f hacc
  obtain ⟨g1, g2, g3, g4, g5, _⟩ := C03.validate_sound_file_partial _ hv
  rcases hne with n | n | n | n | n
  · exact n (g1.trans h1.symm)
  · exact n (g2.trans h2.symm)
  · exact n (g5.trans h5.symm)
  · exact n (g3.trans h3.symm)
  · exact n (g4.trans h4.symm)

open Ach.ReaderSM in
/-- **a transfer cut short before the file control record** is rejected: the records before the cut are a prefix of
what the Writer emitted ahead of the control (however they validate); `tail` is the remainder of a record the cut fell
into, if any — it keeps its first column, so it is not a file control record -/
theorem truncated_before_control_rejected (t : Tree) (ht : WFTree t) (j : Nat) (vs : List Bits) (tail : List (Rec × Bits))
    (htail : ∀ r ∈ tail, r.1.isFC = false) :
    (read (((body t).take j).zip vs ++ tail)).errs ≠ [] :=
  List.ne_nil_of_mem (Dispatch.read_truncated_body t ht j vs tail htail)

open Ach.ReaderSM in
/-- **cut inside the file control record**: same tree, the cut record as control; accepted by the Reader only if that
record validates (`vc`) -/
theorem truncated_inside_control (t : Tree) (ht : WFTree t) (id : Nat) (vc : Bits) :
    read (allOK (body t) ++ [(.fc id, vc)]) = expected { t with control := .fc id } vc :=
  Dispatch.read_truncated_control t ht id vc

/-- after a truncation inside the control record, validation either refuses the file or the control's integrity fields
are all what they were -/
theorem truncated_control_rejected_or_same (f : VFile) (c' : VFileControl) (hacc : fileValidate {} f = true) :
    fileValidate {} { f with control := c' } = false ∨
    (c'.batchCount = f.control.batchCount ∧ c'.entryAddendaCount = f.control.entryAddendaCount ∧
      c'.entryHash = f.control.entryHash ∧ c'.totalDebit = f.control.totalDebit ∧ c'.totalCredit = f.control.totalCredit) :=
  Decidable.or_iff_not_imp_right.2 fun hn =>
    tamper_file_control_rejected f c' hacc (by simpa only [ne_eq, Decidable.not_and_iff_or_not] using hn)

/-- a zero-padded decimal field cut after `j` of its columns (the Reader pads with blanks) parses to a different
number whenever the field's value is positive — the entry/addenda count of a file with at least one entry is -/
theorem truncated_count_differs (ds : Str) (j : Nat) (hd : ds.all isDigit = true) (hlen : ds.length ≤ 18)
    (hj : j < ds.length) (hpos : 0 < digitsVal ds) :
    parseNumField (ds.take j ++ spaces (ds.length - j)) ≠ parseNumField ds := by
  have hdt : (ds.take j).all isDigit = true :=
    List.all_eq_true.2 fun c hc => List.all_eq_true.1 hd c (List.mem_of_mem_take hc)
  have hfull := parseNumField_digits_blanks ds 0 hd hlen
  rw [show ds ++ spaces 0 = ds from List.append_nil ds] at hfull
  rw [hfull, parseNumField_digits_blanks _ _ hdt (Nat.le_trans (List.length_take_le' j ds) hlen)]
  have hdrop : ds.drop j ≠ [] := fun h => Nat.not_le_of_gt hj (List.drop_eq_nil_iff.1 h)
  have := digitsVal_prefix_lt (ds.take j) (ds.drop j) hdrop (by rwa [List.take_append_drop])
  rw [List.take_append_drop] at this
  exact Int.ne_of_lt (Int.ofNat_lt.2 this)

/-- non-vacuity: the count `00000012` cut after 7, 3 or 0 columns reads as 1, 0, 0 -/
example : parseNumField ("0000001".toList ++ spaces 1) = 1 ∧ parseNumField ("000".toList ++ spaces 5) = 0 ∧
    parseNumField (spaces 8) = 0 ∧ parseNumField "00000012".toList = 12 := by decide +kernel

/-- F: the columns of the file control record: everything after column 55 is the reserved blank field, the
entry/addenda count ends at column 21 -/
theorem file_control_columns :
    (parse_FileControl.spans.map fun s => (s.field, s.lo, s.hi)) =
      [("", 0, 1), ("BatchCount", 1, 7), ("BlockCount", 7, 13), ("EntryAddendaCount", 13, 21), ("EntryHash", 21, 31),
       ("TotalDebitEntryDollarAmountInFile", 31, 43), ("TotalCreditEntryDollarAmountInFile", 43, 55), ("", 55, 94)] := rfl

open Ach.ReaderSM in
/-- **cut inside the blocking filler**: with any number of whole filler records the file reads as itself
(`Dispatch.read_emit`); a last filler cut after its first column is a second file control record and is refused -/
theorem truncated_in_filler_same_or_rejected (t : Tree) (ht : WFTree t) (vc : Bits) (fill : List Bits) :
    read (emitted t vc fill) = expected t vc ∧
    ∀ i v, (read (emitted t vc fill ++ [(.fc i, v)])).errs ≠ [] :=
  ⟨Dispatch.read_emit t ht vc fill, fun i v => Dispatch.read_truncated_filler t ht vc fill i v⟩

end Ach.Props.C04
