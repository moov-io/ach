import Ach.Proofs.GoLiteSteps
import Ach.Generated.Validators
/-!
# The translated `isUpperASCII` / `isAlphanumeric` compute the interpreter's built-ins (all strings)

`validator.isUpperASCII` and `validator.isAlphanumeric` (validators.go) walk the runes of a string and return an error at
the first one outside a class.  They are built-ins of the GoLite interpreter (`errIf (!s.all upperRune)`,
`errIf (!s.all alnumRune)`).  Here the Go functions themselves — translated from the source on every run, `for _, r :=
range s` as a loop over the runes — are shown to return exactly that, for every string of any length, so that the two
built-ins need not be trusted.  The condition of each `if … { continue }` evaluates, without any case distinction, to the
Boolean the built-in's class is written with (`eval_and`, `eval_or`, `eval_le_nat`, `eval_eq_nat`).
-/

namespace Ach.Props.RuneClassCode
open Ach Ach.GoLite Ach.Gen

/-- a loop `for _, r := range s { B }` whose body continues on runes of a class and returns an error otherwise -/
def classLoop (B : Prog) : Prog :=
  seqs [(.forIdx "_k" (.call1 "runeIndices" (.var "s")) (seqs [(.bind "r" (.call2 "runeAt" (.var "s") (.var "_k"))), B])),
    (.ret .nil)]

theorem all_range_getD (s : Str) (ok : Char → Bool) : (List.range s.length).all (fun i => ok (s[i]?.getD ' ')) = s.all ok := by
  rw [Bool.eq_iff_iff, List.all_eq_true, List.all_eq_true]
  constructor
  · intro h ch hch
    obtain ⟨i, hi, rfl⟩ := List.mem_iff_getElem.mp hch
    simpa [hi] using h i (List.mem_range.mpr hi)
  · intro h i hi
    have hi := List.mem_range.mp hi
    simpa [hi] using h s[i] (List.getElem_mem hi)

theorem classLoop_exec (c : Ctx) (B : Prog) (ok : Char → Bool) (s : Str)
    (hB : ∀ (ch : Char) (k : Nat) (l : Locals),
      exec B c (("r", .int ch.toNat) :: ("_k", .int k) :: l) =
        (("r", .int ch.toNat) :: ("_k", .int k) :: l, if ok ch then .cont else .ret (.err (some "")))) :
    (exec (classLoop B) c [("s", .str s)]).2 = .ret (errIf (!s.all ok)) := by
  have hloop : (exec (.forIdx "_k" (.call1 "runeIndices" (.var "s"))
        (seqs [(.bind "r" (.call2 "runeAt" (.var "s") (.var "_k"))), B])) c [("s", .str s)]).2 =
      if s.all ok then .next else .ret (.err (some "")) := by
    have hri : eval c [("s", .str s)] (.call1 "runeIndices" (.var "s")) = .lst "" s.length := by
      simp only [eval, lookup_cons_self]
      rw [builtin1]
    rw [exec_forIdx_lst hri, ← all_range_getD]
    refine iter_all _ _ _ _ (fun k => ok (s[k]?.getD ' ')) _ _ (fun k hk => ?_)
    have hat : eval c [("_k", .int k), ("s", .str s)] (.call2 "runeAt" (.var "s") (.var "_k")) =
        .int (s[k]?.getD ' ').toNat := by
      have : (k : Int) < s.length := by exact_mod_cast List.mem_range.mp hk
      simp only [eval, lookup_cons_self, lookup_cons_ne, ne_eq, String.reduceEq, not_false_eq_true]
      rw [builtin2]
      simp [this]
    simp only [seqs, exec, hat, hB]
    split <;> simp [scopeExit, *]
  unfold classLoop
  simp only [seqs] at hloop ⊢
  split at hloop
  · rw [exec_seq_of_next hloop]
    simp [exec, eval, errIf, *]
  · rw [exec_seq_ret hloop]
    simp [errIf, *]

/-! Both bodies test the rune `r` against ranges and single codes. -/

def inRange (lo hi : Nat) : Expr := .and (.le (.int lo) (.var "r")) (.le (.var "r") (.int hi))

def isCode (n : Nat) : Expr := .eq (.var "r") (.int n)

theorem inRange_eval {c : Ctx} {l : Locals} {n : Nat} (hr : eval c l (.var "r") = .int n) (lo hi : Nat) :
    eval c l (inRange lo hi) = .bool (decide (lo ≤ n) && decide (n ≤ hi)) :=
  eval_and (eval_le_nat rfl hr) (eval_le_nat hr rfl)

theorem isCode_eval {c : Ctx} {l : Locals} {n : Nat} (hr : eval c l (.var "r") = .int n) (m : Nat) :
    eval c l (isCode m) = .bool (n == m) :=
  eval_eq_nat hr rfl

theorem errorf_exec (c : Ctx) (l : Locals) :
    exec (.ret (.call3 "fmt.Errorf" (.str "%w: %c") (.mkErr "") (.var "r"))) c l = (l, .ret (.err (some ""))) := by
  rw [exec, eval_errorf3]

def upperBody : Prog :=
  seqs [(.ite (.or (.or (isCode 32) (inRange 48 57)) (inRange 65 90)) .cont .skip),
    (.ret (.call3 "fmt.Errorf" (.str "%w: %c") (.mkErr "") (.var "r")))]

theorem isUpperASCII_shape : v_validator_isUpperASCII = classLoop upperBody := rfl

theorem upperBody_exec (c : Ctx) (ch : Char) (k : Nat) (l : Locals) :
    exec upperBody c (("r", .int ch.toNat) :: ("_k", .int k) :: l) =
      (("r", .int ch.toNat) :: ("_k", .int k) :: l, if upperRune ch then .cont else .ret (.err (some ""))) := by
  have hr : eval c (("r", .int ch.toNat) :: ("_k", .int k) :: l) (.var "r") = .int ch.toNat :=
    lookup_cons_self ..
  -- the condition evaluates to the very Boolean `upperRune` is written with
  have hc : eval c _ (.or (.or (isCode 32) (inRange 48 57)) (inRange 65 90)) = .bool (upperRune ch) :=
    eval_or (eval_or (isCode_eval hr 32) (inRange_eval hr 48 57)) (inRange_eval hr 65 90)
  simp only [upperBody, seqs]
  rw [exec_guard hc rfl (by simp), errorf_exec]
  split <;> rfl

/-- C03 / C15: the Go function `validator.isUpperASCII`, as translated from the source on this run, returns nil
exactly when every rune is a blank, a digit or an upper-case ASCII letter — what the interpreter's built-in returns — for
every string -/
theorem isUpperASCII_exec (c : Ctx) (s : Str) :
    (exec v_validator_isUpperASCII c [("s", .str s)]).2 = .ret (builtin1 c.ext "isUpperASCII" (.str s)) := by
  rw [isUpperASCII_shape, classLoop_exec c upperBody upperRune s (upperBody_exec c)]
  simp [builtin1]

def alnumBody : Prog :=
  seqs [(.ite (inRange 32 126) .cont .skip),
    (.ite (inRange 192 255) .cont .skip),
    (.ite (.or (isCode 160) (.or (isCode 162) (.or (isCode 172) (.or (isCode 166) (.or (isCode 177) (isCode 216))))))
      (.block .cont) .skip),
    (.ret (.call3 "fmt.Errorf" (.str "%w: %c") (.mkErr "") (.var "r")))]

theorem isAlphanumeric_shape : v_validator_isAlphanumeric = classLoop alnumBody := rfl

theorem alnumBody_exec (c : Ctx) (ch : Char) (k : Nat) (l : Locals) :
    exec alnumBody c (("r", .int ch.toNat) :: ("_k", .int k) :: l) =
      (("r", .int ch.toNat) :: ("_k", .int k) :: l, if alnumRune ch then .cont else .ret (.err (some ""))) := by
  have hr : eval c (("r", .int ch.toNat) :: ("_k", .int k) :: l) (.var "r") = .int ch.toNat :=
    lookup_cons_self ..
  have h3 := eval_or (isCode_eval hr 160) (eval_or (isCode_eval hr 162) (eval_or (isCode_eval hr 172)
    (eval_or (isCode_eval hr 166) (eval_or (isCode_eval hr 177) (isCode_eval hr 216)))))
  simp only [alnumBody, seqs]
  rw [exec_guard (inRange_eval hr 32 126) rfl (by simp), exec_guard (inRange_eval hr 192 255) rfl (by simp),
    exec_guard (s := .cont) h3 (by simp [exec, scopeExit_self]) (by simp), errorf_exec]
  -- the three conditions, in this order, are the disjuncts of `alnumRune`
  simp only [alnumRune, Char.toNat, Bool.or_assoc]
  generalize (decide (32 ≤ _) && decide (_ ≤ 126)) = b1
  generalize (decide (192 ≤ _) && decide (_ ≤ 255)) = b2
  generalize (_ == 160 || _) = b3
  cases b1 <;> cases b2 <;> cases b3 <;> rfl

/-- C03 / C15: the Go function `validator.isAlphanumeric`, as translated from the source on this run, returns nil
exactly when every rune lies in the accepted ranges and singletons — what the interpreter's built-in returns — for every
string -/
theorem isAlphanumeric_exec (c : Ctx) (s : Str) :
    (exec v_validator_isAlphanumeric c [("s", .str s)]).2 = .ret (builtin1 c.ext "isAlphanumeric" (.str s)) := by
  rw [isAlphanumeric_shape, classLoop_exec c alnumBody alnumRune s (alnumBody_exec c)]
  simp [builtin1]

end Ach.Props.RuneClassCode
