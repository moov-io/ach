import Ach.Props.AcceptedEntries
import Ach.Props.AcceptedTraces
import Ach.Props.AcceptedAscending
import Ach.Props.AcceptedHash
import Ach.Props.AcceptedCount
import Ach.Props.AcceptedAmounts
/-!
# C03 for standard batches, stated once, on the validation code translated from the source on this run

`StdBatch c` describes a standard (non-ADV) batch stored in a context: where its header, control and entries are and
what the fields hold that the property speaks about.  `c03_standard_batch` is the property's batch-level statement at
full strength for such a batch of any size under the default options: one hypothesis — `Batch.verify()` returned nil —
and every clause as a conclusion.  (Each clause is proved in its own `Ach.Props.Accepted*` module; the options that
relax a clause are named there.)
-/
namespace Ach.Props.C03Code
open Ach Ach.GoLite Ach.Gen

structure StdBatch (c : Ctx) where
  hp : String
  cp : String
  p : String
  n : Nat
  sec : Str
  hH : lookup c.fields (joinPath c.recv "Header") = .ref hp
  hC : lookup c.fields (joinPath c.recv "Control") = .ref cp
  hE : lookup c.fields (joinPath c.recv "Entries") = .lst p n
  hsec : lookup c.fields (joinPath hp "StandardEntryClassCode") = .str sec
  hnadv : sec ≠ ['A', 'D', 'V']
  hscc : Int
  cscc : Int
  hbn : Int
  cbn : Int
  hodfi : Str
  codfi : Str
  hcid : Str
  ccid : Str
  h1 : lookup c.fields (joinPath hp "ServiceClassCode") = .int hscc
  h2 : lookup c.fields (joinPath cp "ServiceClassCode") = .int cscc
  h3 : lookup c.fields (joinPath hp "CompanyIdentification") = .str hcid
  h4 : lookup c.fields (joinPath cp "CompanyIdentification") = .str ccid
  h5 : lookup c.fields (joinPath hp "ODFIIdentification") = .str hodfi
  h6 : lookup c.fields (joinPath cp "ODFIIdentification") = .str codfi
  h7 : lookup c.fields (joinPath hp "BatchNumber") = .int hbn
  h8 : lookup c.fields (joinPath cp "BatchNumber") = .int cbn
  count : Int
  hash : Int
  credit : Int
  debit : Int
  k1 : lookup c.fields (joinPath cp "EntryAddendaCount") = .int count
  k2 : lookup c.fields (joinPath cp "EntryHash") = .int hash
  k3 : lookup c.fields (joinPath cp "TotalCreditEntryDollarAmount") = .int credit
  k4 : lookup c.fields (joinPath cp "TotalDebitEntryDollarAmount") = .int debit
  rdfi : Nat → Str
  cd : Nat → Str
  tr : Nat → Str
  tc : Nat → Int
  am : Nat → Int
  cnt : Nat → Int
  e1 : ∀ i, i < n → lookup c.fields (joinPath (elemPath p i) "RDFIIdentification") = .str (rdfi i)
  e2 : ∀ i, i < n → lookup c.fields (joinPath (elemPath p i) "CheckDigit") = .str (cd i)
  e3 : ∀ i, i < n → lookup c.fields (joinPath (elemPath p i) "TraceNumber") = .str (tr i)
  e4 : ∀ i, i < n → lookup c.fields (joinPath (elemPath p i) "TransactionCode") = .int (tc i)
  e5 : ∀ i, i < n → lookup c.fields (joinPath (elemPath p i) "Amount") = .int (am i)
  e6 : ∀ i, i < n → Ach.Props.AcceptedCount.addendaCountOf c (elemPath p i) = some (cnt i)
  ascii : ∀ i, i < n → allAscii (rdfi i) = true

/-- no option at all is on in the receiver's stored options.  One `Ctx` carries one option set for the whole run
(`checkOn` changes the receiver only), so every entry is validated under the batch's options. -/
def defaultOpts (c : Ctx) : Prop :=
  ∀ f, hasFlag c "recv" f = false

/-- C03, standard batches, on the translated code: an accepted batch satisfies the control arithmetic -/
theorem c03_standard_batch (c : Ctx) (B : StdBatch c) (hdef : defaultOpts c) (ha : run c v_Batch_verify = .accept) :
    -- the control's entry/addenda count, hash and totals are those recomputed from the entries
    B.count = ((List.range B.n).map (fun i => 1 + B.cnt i)).sum ∧
    B.hash = leastSignificantDigits (((List.range B.n).map (fun i => Ach.Props.AcceptedHash.rdfiNumber (B.rdfi i))).sum) 10 ∧
    B.credit = ((List.range B.n).map (fun i => Ach.Props.AcceptedAmounts.creditPart (B.tc i) (B.am i))).sum ∧
    B.debit = ((List.range B.n).map (fun i => Ach.Props.AcceptedAmounts.debitPart (B.tc i) (B.am i))).sum ∧
    -- header and control agree
    B.hscc = B.cscc ∧ B.hodfi = B.codfi ∧ B.hbn = B.cbn ∧ B.hcid = B.ccid ∧
    -- every entry: check digit, amount in field, trace number begins with the ODFI
    (∀ i, i < B.n → atoi (B.cd i) = some (calculateCheckDigit (stringField (B.rdfi i) 8))) ∧
    (∀ i, i < B.n → 0 ≤ B.am i ∧ B.am i ≤ 9999999999) ∧
    (∀ i, i < B.n → Ach.Props.AcceptedTraces.tracePrefix (B.tr i) = .str (stringField B.hodfi 8)) ∧
    -- trace numbers strictly ascend
    Ach.Props.AcceptedAscending.ascending B.tr ['0'] (List.range B.n) := by
  obtain ⟨a1, a2, a3, a4⟩ := Ach.Props.Accepted.accepted_batch_header_control_agree c B.hp B.cp B.sec B.hcid B.ccid B.hodfi B.codfi
    B.hbn B.cbn B.hscc B.cscc B.hH B.hC B.hsec B.hnadv B.h1 B.h2 B.h3 B.h4 B.h5 B.h6 B.h7 B.h8 ha
  obtain ⟨t1, t2⟩ := Ach.Props.AcceptedAmounts.accepted_batch_totals c B.hp B.cp B.p B.n B.tc B.am B.sec B.credit B.debit
    B.hH B.hsec B.hnadv B.hC B.k3 B.k4 B.hE B.e4 B.e5 ha
  refine ⟨?_, ?_, t1, t2, a3 (hdef _), a1, a2, a4 (hdef _), ?_, ?_, ?_, ?_⟩
  · exact Ach.Props.AcceptedCount.accepted_batch_entry_count c B.hp B.cp B.p B.n B.cnt B.sec B.count (hdef _) B.hH B.hsec B.hnadv
      B.hC B.k1 B.hE B.e6 ha
  · exact Ach.Props.AcceptedHash.accepted_batch_entry_hash_ascii c B.hp B.cp B.p B.n B.rdfi B.sec B.hash B.hH B.hsec B.hnadv
      B.hC B.k2 B.hE B.e1 B.ascii ha
  · intro i hi
    exact Ach.Props.AcceptedEntries.accepted_batch_every_entry c B.hp B.p B.n B.sec B.rdfi B.cd B.hH B.hsec B.hnadv B.hE B.e1 B.e2
      ha i hi (hdef _)
  · exact Ach.Props.AcceptedEntries.accepted_batch_every_amount c B.hp B.p B.n B.sec B.am B.hH B.hsec B.hnadv B.hE B.e5 ha
  · exact Ach.Props.AcceptedTraces.accepted_batch_traces_begin_with_odfi c B.hp B.p B.n B.tr B.hodfi (hdef _) (hdef _) B.hH B.h5
      B.hE B.e3 ha
  · exact Ach.Props.AcceptedAscending.accepted_batch_traces_ascend c B.hp B.p B.n B.tr B.sec (hdef _) B.hH B.hsec B.hnadv B.hE
      B.e3 ha

end Ach.Props.C03Code
