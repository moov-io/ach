import Ach.Props.AcceptedFileValidate
/-!
# Every batch of an accepted file passed `Batch.verify` (C03, end to end)

The loop of `File.ValidateWith` that validates each batch dispatches on the batch's dynamic type.  Its translation is
shown to be — today — the chain `if b.(type) == T { b.Validate() of T }` over the table below; every `BatchXXX.Validate`
of the table except the ADV one starts with `Batch.verify()`.  So for a file on which `File.ValidateWith` returns nil,
each batch, taken as the receiver, was accepted by the `Validate` of its type (`accepted_file_batches_validated`) and
satisfies everything `Ach.Props.Accepted*` proves of an accepted `Batch.verify`.
-/
namespace Ach.Props.AcceptedFileBatches
open Ach Ach.GoLite Ach.Gen Ach.Props.AcceptedFileValidate

/-- the translator's rendering of a call through the `Batcher` interface: a chain of comparisons of the value's dynamic
type, which the store keeps in the pseudo-field `$type` (harness/corr/batchvalidate.go writes it) -/
def chainProg : List (String × Prog) → Prog
  | [] => .effect "dispatch: unknown dynamic type"
  | (T, P) :: rest => .ite (.eq (.sel (.var "b") "$type") (.str T)) (.checkOn none (.var "b") [] [] P) (chainProg rest)

def dispatchTable : List (String × Prog) :=
  [("BatchACK", v_BatchACK_Validate), ("BatchADV", v_BatchADV_Validate), ("BatchARC", v_BatchARC_Validate),
   ("BatchATX", v_BatchATX_Validate), ("BatchBOC", v_BatchBOC_Validate), ("BatchCCD", v_BatchCCD_Validate),
   ("BatchCIE", v_BatchCIE_Validate), ("BatchCOR", v_BatchCOR_Validate), ("BatchCTX", v_BatchCTX_Validate),
   ("BatchDNE", v_BatchDNE_Validate), ("BatchENR", v_BatchENR_Validate), ("BatchMTE", v_BatchMTE_Validate),
   ("BatchPOP", v_BatchPOP_Validate), ("BatchPOS", v_BatchPOS_Validate), ("BatchPPD", v_BatchPPD_Validate),
   ("BatchRCK", v_BatchRCK_Validate), ("BatchSHR", v_BatchSHR_Validate), ("BatchTEL", v_BatchTEL_Validate),
   ("BatchTRC", v_BatchTRC_Validate), ("BatchTRX", v_BatchTRX_Validate), ("BatchWEB", v_BatchWEB_Validate),
   ("BatchXCK", v_BatchXCK_Validate)]

/-- the callee of a function's first statement, when that is `if err := f(); err != nil { return err }` and more
follows -/
def firstCheck : Prog → Option Prog
  | .seq (.check none b) _ => some b
  | _ => none

theorem firstCheck_eq {P b : Prog} (h : firstCheck P = some b) : ∃ rest, P = .seq (.check none b) rest := by
  unfold firstCheck at h
  split at h <;> cases h
  exact ⟨_, rfl⟩

theorem firstCheck_passes {P b : Prog} (h : firstCheck P = some b) {c : Ctx} (ha : run c P = .accept) :
    run c b = .accept := by
  obtain ⟨rest, rfl⟩ := firstCheck_eq h
  exact run_accept.mpr (check_passes c [] none b (accept_seq_left rfl (run_accept.mp ha)))

theorem table_starts_with_verify {T : String} {P : Prog} (hm : (T, P) ∈ dispatchTable) (hT : T ≠ "BatchADV") :
    firstCheck P = some v_Batch_verify := by
  -- row by row, by `rfl`: the callee is compared with `v_Batch_verify` as a name; deciding the equality of two programs
  -- would descend into `Batch.verify` once per row
  have h : dispatchTable.map (fun tp => firstCheck tp.2) =
      dispatchTable.map (fun tp => if tp.1 = "BatchADV" then none else some v_Batch_verify) := rfl
  simpa [hT] using List.map_eq_map_iff.mp h (T, P) hm

/-- the batch loop of the translated `File.ValidateWith` is the dispatch chain over that table; it is the second
statement of the branch for files that are not ADV files, after one statement that can only reject; and every validator
of the table but the ADV one starts with `Batch.verify()` -/
theorem batch_loop_dispatches :
    (stmts nonAdvPart).drop 1 = (.forEach "b" (.fld "Batches") (chainProg dispatchTable)) :: (stmts nonAdvPart).drop 2 ∧
    (stmts nonAdvPart).drop 2 ≠ [] ∧
    ((stmts nonAdvPart).take 1).all (fun q => rejectOnly q && quiet q) = true ∧
    rejectOnly (.forEach "b" (.fld "Batches") (chainProg dispatchTable)) = true ∧
    noAssign (chainProg dispatchTable) = true ∧
    dispatchTable.all (fun tp => tp.1 == "BatchADV" ||
      ((stmts tp.2)[0]? == some (.check none v_Batch_verify) && (stmts tp.2).length > 1)) = true := by
  refine ⟨rfl, by decide, rfl, rfl, rfl, List.all_eq_true.mpr fun tp hm => ?_⟩
  by_cases hT : tp.1 = "BatchADV"
  · simp [hT]
  · obtain ⟨rest, hP⟩ := firstCheck_eq (table_starts_with_verify hm hT)
    simp [hP, stmts, List.length_pos_iff, stmts_ne_nil]

/-- the dispatch chain, when it falls through on a batch of dynamic type `T`, ran the validator the table gives for `T`,
and that returned nil -/
theorem chain_pass {c : Ctx} {l : Locals} {ep T : String} (hb : lookup l "b" = .ref ep)
    (ht : lookup c.fields (joinPath ep "$type") = .str T.toList) :
    ∀ cases : List (String × Prog), (exec (chainProg cases) c l).2 = .next →
      ∃ P, (T, P) ∈ cases ∧ run { c with recv := ep } P = .accept := by
  intro cases
  induction cases with
  | nil => intro h; simp [chainProg, exec] at h
  | cons tp rest ih =>
      obtain ⟨T', P'⟩ := tp
      intro h
      have hty : eval c l (.eq (.sel (.var "b") "$type") (.str T')) = .bool (decide (T.toList = T'.toList)) := by
        simp [eval, hb, ht, cmpVals]
      by_cases heq : T.toList = T'.toList
      · obtain rfl : T = T' := String.toList_injective heq
        rw [chainProg, exec_ite_true (by simpa using hty)] at h
        exact ⟨P', List.mem_cons_self .., run_accept.mpr (checkOn_passes (recv := .var "b") hb h)⟩
      · rw [chainProg, exec_ite_false (by simpa [heq] using hty)] at h
        obtain ⟨P, hm, hp⟩ := ih h
        exact ⟨P, List.mem_cons_of_mem _ hm, hp⟩

/-- every batch of a file that is not an ADV file and on which `File.ValidateWith` returns nil without `SkipAll` was
accepted by the `Validate` the table gives for its dynamic type -/
theorem accepted_file_batches_validated (c : Ctx) (bp : String) (nb : Nat)
    (hB : lookup c.fields (joinPath c.recv "Batches") = .lst bp nb)
    (hskip : hasFlag c "param" "SkipAll" = false)
    (hnadv : (exec v_File_IsADV c []).2 = .ret (.bool false))
    (ha : run c v_File_ValidateWith = .accept) :
    ∀ i, i < nb → ∀ T : String, lookup c.fields (joinPath (elemPath bp i) "$type") = .str T.toList →
      ∃ P, (T, P) ∈ dispatchTable ∧ run { c with recv := elemPath bp i } P = .accept := by
  intro i hi T hT
  obtain ⟨L, hacc⟩ := accepted_file_enters_nonadv c hskip hnadv ha
  obtain ⟨hd1, _, hall1, hroF, hnaC, _⟩ := batch_loop_dispatches
  obtain ⟨pre, hloop⟩ := accept_passes hd1 (calm_of_all calm_of_quiet hall1) hroF hacc
  exact chain_pass (by simp [lookup]) hT dispatchTable (forEach_visits (calm_of_noAssign _ hnaC) hloop hB i hi)

/-- C03, end to end — for every file value of standard batches (any number, any sizes) on which `File.ValidateWith(opts)`
— translated from the source on this run — returns nil without `SkipAll`: every batch whose dynamic type is one of the
21 standard batch types passed `Batch.verify()` as the receiver.  All of `accepted_batch_header_control_agree`,
`accepted_batch_traces_begin_with_odfi`, `accepted_batch_traces_ascend`, `accepted_batch_entry_hash`,
`accepted_batch_entry_count` and `accepted_batch_totals` therefore hold of every batch of an accepted file. -/
theorem accepted_file_batches_verified (c : Ctx) (bp : String) (nb : Nat)
    (hB : lookup c.fields (joinPath c.recv "Batches") = .lst bp nb)
    (hskip : hasFlag c "param" "SkipAll" = false)
    (hnadv : (exec v_File_IsADV c []).2 = .ret (.bool false))
    (ha : run c v_File_ValidateWith = .accept) :
    ∀ i, i < nb → ∀ T : String, lookup c.fields (joinPath (elemPath bp i) "$type") = .str T.toList →
      T ≠ "BatchADV" → run { c with recv := elemPath bp i } v_Batch_verify = .accept := by
  intro i hi T hT hnadvT
  obtain ⟨P, hm, hP⟩ := accepted_file_batches_validated c bp nb hB hskip hnadv ha i hi T hT
  exact firstCheck_passes (table_starts_with_verify hm hnadvT) hP

/-- every `BatchXXX.Validate` of the table but the ADV one, when it returns nil, had `Batch.verify()` return nil first -/
theorem accepted_sec_validate_verified (name : String) (P : Prog) (hm : (name, P) ∈ dispatchTable) (hn : name ≠ "BatchADV")
    (c : Ctx) (ha : run c P = .accept) : run c v_Batch_verify = .accept :=
  firstCheck_passes (table_starts_with_verify hm hn) ha

/-- the same for IAT batches: `IATBatch.Validate()` = nil ⇒ `IATBatch.verify()` = nil -/
theorem accepted_iat_validate_verified (c : Ctx) (ha : run c v_IATBatch_Validate = .accept) :
    run c v_IATBatch_verify = .accept :=
  firstCheck_passes (P := v_IATBatch_Validate) rfl ha

end Ach.Props.AcceptedFileBatches
