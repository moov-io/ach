import Ach.Model.Json
import Ach.Generated.Schemas
import Ach.Generated.Layouts
import Ach.Generated.Topics
/-!
# C07 — JSON and NACHA text are interchangeable representations of a file  (schema level)

`encoding/json` is modelled, not verified: its rules for exported fields, `json:"-"`, `omitempty` and absent keys are
restated as `Ach.Json.encodeField/decodeField`.

* `json_roundtrip_struct` — for every schema and every struct value whose fields satisfy `fieldOK` (an unexported
  field holds its constructor default; an `omitempty` field holding the zero value has a zero default),
  `decode (encode v) = v`;
* `rendered_fields_exported` (F, regenerated struct tags × regenerated layouts) — every field that a record's `String()`
  writes or its `Parse` fills is exported and not `json:"-"`, except the four constant fields of `FileHeader`
  (always equal to the constructor's values) and `Addenda98.iatCorrectedData` (D18 in DESIGN.md section 8: lost through JSON);
* `omitempty_defaults_zero` (F) — every `omitempty` field of a record has a zero constructor default, except the
  `Category` fields and `FileHeader.FileIDModifier`, whose zero value no valid record holds.  (Before the fix of D7 this
  obligation failed for `BatchHeader.OriginatorStatusCode`, default 1, zero value 0 used by ADV.)
* `json_functions_unchanged` (F) — the decode path (`FileFromJSONWith`, `setBatchesFromJSON`, …) is the one read.

The re-tabulation that `FileFromJSON` performs (`Create`) is C05; CTX/ATX re-inference of the addenda-records sub-field
in `setBatchesFromJSON` is not modelled (the oracle found a defect there: known finding).
-/
namespace Ach.Props.C07
open Ach.Json Ach.Gen

theorem field_roundtrip (f : FInfo) (v : Nat) (h : fieldOK f v = true) : decodeField f (encodeField f v) = v := by
  obtain ⟨hd, hz⟩ := Bool.and_eq_true_iff.1 h
  unfold encodeField
  cases he : f.exported
  · -- unexported: decoded to the constructor's default, which `fieldOK` makes `v`
    rw [he] at hd
    exact (eq_of_beq hd).symm
  · cases ho : f.omitempty && v == 0
    · rfl
    · -- omitted as empty: `v = 0`, and `fieldOK` makes the default `0`
      rw [he, Bool.true_and, ho] at hz
      exact (eq_of_beq hz).trans (eq_of_beq (Bool.and_eq_true_iff.1 ho).2).symm

theorem json_roundtrip_struct : ∀ (S : List FInfo) (vs : List Nat), valuesOK S vs = true → decode S (encode S vs) = vs
  | [], [], _ => rfl
  | f :: fs, v :: vs, h => by
    simp only [valuesOK, Bool.and_eq_true] at h
    simp only [encode, decode, field_roundtrip f v h.1, json_roundtrip_struct fs vs h.2]
  | [], _ :: _, h => nomatch h
  | _ :: _, [], h => nomatch h

/-- and the condition is necessary: an unexported field holding a non-default value is lost -/
theorem unexported_field_lost : decodeField ⟨false, false, 0⟩ (encodeField ⟨false, false, 0⟩ 7) ≠ 7 := by decide

def schemaOf (name : String) : Option Schema := schemas.find? (fun s => s.name = name)

def fieldExported (rec field : String) : Bool :=
  match schemaOf rec with
  | some s => match s.fields.find? (fun f => f.go = field) with
    | some f => f.exported && f.json ≠ "-"
    | none => false
  | none => false

def constantFields : List (String × String) :=
  [("FileHeader", "priorityCode"), ("FileHeader", "recordSize"), ("FileHeader", "blockingFactor"), ("FileHeader", "formatCode")]

/-- D18 (DESIGN.md section 8) -/
def knownLost : List (String × String) := [("Addenda98", "iatCorrectedData")]

theorem rendered_fields_exported :
    (renderFacts.all (fun r => (r.segs.filter (fun s => s.kind ≠ "lit" && s.kind ≠ "custom")).all
        (fun s => fieldExported r.recName s.field || constantFields.contains (r.recName, s.field)))) = true ∧
    (parseFacts.all (fun p => (p.spans.filter (fun s => s.field ≠ "")).all
        (fun s => fieldExported p.recName s.field || knownLost.contains (p.recName, s.field)))) = true := by
  decide +kernel

def zeroDefault (d : String) : Bool := d = "0" || d = "\"\"" || d = "false"

def zeroNeverValid : List (String × String) :=
  [("ADVEntryDetail", "Category"), ("EntryDetail", "Category"), ("IATEntryDetail", "Category"), ("FileHeader", "FileIDModifier")]

theorem omitempty_defaults_zero :
    ((schemas.filter (fun s => recordTypes.contains s.name)).all (fun s => s.fields.all (fun f =>
      !f.omitempty ||
      (match ctorDefaults.find? (fun d => d.1 = s.name && d.2.1 = f.go) with
       | some d => zeroDefault d.2.2 || zeroNeverValid.contains (s.name, f.go)
       | none => true)))) = true := by
  decide +kernel

theorem json_functions_unchanged : hashes_json = [("FileFromJSON", 15973811254979343774), ("FileFromJSONWith", 7455445818279454872), ("File.MarshalJSON", 5540854320919699578), ("File.UnmarshalJSON", 1408470529038950611), ("File.setBatchesFromJSON", 1024348192002621846), ("readValidateOpts", 11425622088199532189), ("setEntryRecordType", 12965703014794471618), ("setADVEntryRecordType", 12875969952171026290), ("setIATEntryRecordType", 10832346033924216576), ("File.overwriteDateTimeFields", 17951009745717038826), ("Batch.MarshalJSON", 4569099446902544474), ("Batch.UnmarshalJSON", 3599784032339515092)] := rfl

/-- non-vacuity: a three-field struct (exported, exported+omitempty with zero default, unexported at its default) -/
example : valuesOK [⟨true, false, 0⟩, ⟨true, true, 0⟩, ⟨false, false, 3⟩] [5, 0, 3] = true ∧
    decode [⟨true, false, 0⟩, ⟨true, true, 0⟩, ⟨false, false, 3⟩] (encode [⟨true, false, 0⟩, ⟨true, true, 0⟩, ⟨false, false, 3⟩] [5, 0, 3]) = [5, 0, 3] := by decide +kernel

end Ach.Props.C07
