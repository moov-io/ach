import Ach.Model.Layout
import Ach.Generated.Layouts
/-!
# Fact obligations shared by C01 and C02: every record's `Parse` and `String()` line up

One theorem per record type: the layout extracted from the current Go source
compiles, i.e. the columns `Parse` cuts are exactly the columns `String()`
writes, converter pairs are known, every cut is by rune offsets, widths sum to
94.  An off-by-one in any offset or width, a byte-offset cut, a new or changed
custom `XField()` method makes the evaluation they all rest on (`recordFacts_compile`) fail.
-/
namespace Ach.Props.Layouts
open Ach.Gen

/-- the pin that makes `recordFacts` below complete: a record type added in /repo changes this list -/
theorem record_types : recordTypes = ["ADVBatchControl", "ADVEntryDetail", "ADVFileControl", "Addenda02", "Addenda05", "Addenda10",
    "Addenda11", "Addenda12", "Addenda13", "Addenda14", "Addenda15", "Addenda16", "Addenda17", "Addenda18", "Addenda98",
    "Addenda98Refused", "Addenda99", "Addenda99Contested", "Addenda99Dishonored", "BatchControl", "BatchHeader", "EntryDetail",
    "FileControl", "FileHeader", "IATBatchHeader", "IATEntryDetail"] := rfl

/-- the `Parse` and `String()` facts of the record types, in the order of `recordTypes` -/
def recordFacts : List (ParseFact × RenderFact) :=
  [(parse_ADVBatchControl, render_ADVBatchControl), (parse_ADVEntryDetail, render_ADVEntryDetail),
   (parse_ADVFileControl, render_ADVFileControl), (parse_Addenda02, render_Addenda02),
   (parse_Addenda05, render_Addenda05), (parse_Addenda10, render_Addenda10), (parse_Addenda11, render_Addenda11),
   (parse_Addenda12, render_Addenda12), (parse_Addenda13, render_Addenda13), (parse_Addenda14, render_Addenda14),
   (parse_Addenda15, render_Addenda15), (parse_Addenda16, render_Addenda16), (parse_Addenda17, render_Addenda17),
   (parse_Addenda18, render_Addenda18), (parse_Addenda98, render_Addenda98),
   (parse_Addenda98Refused, render_Addenda98Refused), (parse_Addenda99, render_Addenda99),
   (parse_Addenda99Contested, render_Addenda99Contested), (parse_Addenda99Dishonored, render_Addenda99Dishonored),
   (parse_BatchControl, render_BatchControl), (parse_BatchHeader, render_BatchHeader),
   (parse_EntryDetail, render_EntryDetail), (parse_FileControl, render_FileControl),
   (parse_FileHeader, render_FileHeader), (parse_IATBatchHeader, render_IATBatchHeader),
   (parse_IATEntryDetail, render_IATEntryDetail)]

/-- All records are compiled in one kernel evaluation.  Nearly all of its work is `String.decEq` and `String.length`
on literals, which the kernel runs on the UTF-8 bytes; within one run its cache shares that work for the converter
and field names that recur from record to record, where a run per record would redo it.  A record is picked out of
the table by its index, since membership would have to compare facts, that is strings, once more.  When this fails,
evaluating `recordFacts.map fun p => compile p.1 p.2` names the record and the reason. -/
theorem recordFacts_compile {pf : ParseFact} {rf : RenderFact} (i : Nat) (h : recordFacts[i]? = some (pf, rf)) :
    compileOK pf rf = true :=
  List.all_eq_true.1 (by decide +kernel : recordFacts.all (fun p => compileOK p.1 p.2) = true) (pf, rf)
    (List.mem_of_getElem? h)

theorem layout_ADVBatchControl : compileOK parse_ADVBatchControl render_ADVBatchControl = true := recordFacts_compile 0 rfl
theorem layout_ADVEntryDetail : compileOK parse_ADVEntryDetail render_ADVEntryDetail = true := recordFacts_compile 1 rfl
theorem layout_ADVFileControl : compileOK parse_ADVFileControl render_ADVFileControl = true := recordFacts_compile 2 rfl
theorem layout_Addenda02 : compileOK parse_Addenda02 render_Addenda02 = true := recordFacts_compile 3 rfl
theorem layout_Addenda05 : compileOK parse_Addenda05 render_Addenda05 = true := recordFacts_compile 4 rfl
theorem layout_Addenda10 : compileOK parse_Addenda10 render_Addenda10 = true := recordFacts_compile 5 rfl
theorem layout_Addenda11 : compileOK parse_Addenda11 render_Addenda11 = true := recordFacts_compile 6 rfl
theorem layout_Addenda12 : compileOK parse_Addenda12 render_Addenda12 = true := recordFacts_compile 7 rfl
theorem layout_Addenda13 : compileOK parse_Addenda13 render_Addenda13 = true := recordFacts_compile 8 rfl
theorem layout_Addenda14 : compileOK parse_Addenda14 render_Addenda14 = true := recordFacts_compile 9 rfl
theorem layout_Addenda15 : compileOK parse_Addenda15 render_Addenda15 = true := recordFacts_compile 10 rfl
theorem layout_Addenda16 : compileOK parse_Addenda16 render_Addenda16 = true := recordFacts_compile 11 rfl
theorem layout_Addenda17 : compileOK parse_Addenda17 render_Addenda17 = true := recordFacts_compile 12 rfl
theorem layout_Addenda18 : compileOK parse_Addenda18 render_Addenda18 = true := recordFacts_compile 13 rfl
theorem layout_Addenda98 : compileOK parse_Addenda98 render_Addenda98 = true := recordFacts_compile 14 rfl
theorem layout_Addenda98Refused : compileOK parse_Addenda98Refused render_Addenda98Refused = true := recordFacts_compile 15 rfl
theorem layout_Addenda99 : compileOK parse_Addenda99 render_Addenda99 = true := recordFacts_compile 16 rfl
theorem layout_Addenda99Contested : compileOK parse_Addenda99Contested render_Addenda99Contested = true := recordFacts_compile 17 rfl
theorem layout_Addenda99Dishonored : compileOK parse_Addenda99Dishonored render_Addenda99Dishonored = true := recordFacts_compile 18 rfl
theorem layout_BatchControl : compileOK parse_BatchControl render_BatchControl = true := recordFacts_compile 19 rfl
theorem layout_BatchHeader : compileOK parse_BatchHeader render_BatchHeader = true := recordFacts_compile 20 rfl
theorem layout_EntryDetail : compileOK parse_EntryDetail render_EntryDetail = true := recordFacts_compile 21 rfl
theorem layout_FileControl : compileOK parse_FileControl render_FileControl = true := recordFacts_compile 22 rfl
theorem layout_FileHeader : compileOK parse_FileHeader render_FileHeader = true := recordFacts_compile 23 rfl
theorem layout_IATBatchHeader : compileOK parse_IATBatchHeader render_IATBatchHeader = true := recordFacts_compile 24 rfl
theorem layout_IATEntryDetail : compileOK parse_IATEntryDetail render_IATEntryDetail = true := recordFacts_compile 25 rfl

end Ach.Props.Layouts
