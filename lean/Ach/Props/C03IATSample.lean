import Ach.Props.C03IATCode
import Ach.Props.AcceptedFileBatches
/-!
# Non-vacuity of `c03_iat_batch`: a concrete IAT batch that the translated `IATBatch.verify` accepts

The batch below is one of the generator batches the `batchvalidate` stream compared with the real `IATBatch.Validate`
(one forward entry with its seven mandatory addenda and one Addenda17, no options); it is written out here once, as a
witness that the hypotheses of `c03_iat_batch` are satisfiable.  It is a test, not a theorem about all batches.
-/
namespace Ach.Props.C03IATSample
open Ach Ach.GoLite Ach.Gen Ach.Props.C03IATCode

def iatFields0 : List (String × Val) := [
  ("ID", .str "b1".toList),
  ("Header", .ref "Header"),
  ("Header.ID", .str "b1".toList),
  ("Header.ServiceClassCode", .int 225),
  ("Header.IATIndicator", .str "".toList),
  ("Header.ForeignExchangeIndicator", .str "FF".toList),
  ("Header.ForeignExchangeReferenceIndicator", .int 3),
  ("Header.ForeignExchangeReference", .str "".toList),
  ("Header.ISODestinationCountryCode", .str "US".toList),
  ("Header.OriginatorIdentification", .str "XzE3KT".toList),
  ("Header.StandardEntryClassCode", .str "IAT".toList),
  ("Header.CompanyEntryDescription", .str "TRADEPAYMT".toList),
  ("Header.ISOOriginatingCurrencyCode", .str "CAD".toList),
  ("Header.ISODestinationCurrencyCode", .str "USD".toList),
  ("Header.EffectiveEntryDate", .str "501221".toList),
  ("Header.SettlementDate", .str "".toList),
  ("Header.OriginatorStatusCode", .int 1),
  ("Header.ODFIIdentification", .str "05560351".toList),
  ("Header.BatchNumber", .int 1),
  ("Header.LineNumber", .int 0),
  ("Entries", .lst "Entries" 1),
  ("Entries[0].ID", .str "b1e1".toList),
  ("Entries[0].TransactionCode", .int 47),
  ("Entries[0].RDFIIdentification", .str "29968350".toList),
  ("Entries[0].CheckDigit", .str "0".toList)
]

def iatFields1 : List (String × Val) := [
  ("Entries[0].AddendaRecords", .int 8),
  ("Entries[0].Amount", .int 1483067),
  ("Entries[0].DFIAccountNumber", .str "294-006020690".toList),
  ("Entries[0].OFACScreeningIndicator", .str "".toList),
  ("Entries[0].SecondaryOFACScreeningIndicator", .str "".toList),
  ("Entries[0].AddendaRecordIndicator", .int 1),
  ("Entries[0].TraceNumber", .str "055603510000001".toList),
  ("Entries[0].Addenda10", .ref "Entries[0].Addenda10"),
  ("Entries[0].Addenda10.ID", .str "".toList),
  ("Entries[0].Addenda10.TypeCode", .str "10".toList),
  ("Entries[0].Addenda10.TransactionTypeCode", .str "MIS".toList),
  ("Entries[0].Addenda10.ForeignPaymentAmount", .int 1483067),
  ("Entries[0].Addenda10.ForeignTraceNumber", .str "".toList),
  ("Entries[0].Addenda10.Name", .str "yxuiy3 Tp3)Z+,kbCis' QUF.rrw".toList),
  ("Entries[0].Addenda10.EntryDetailSequenceNumber", .int 1),
  ("Entries[0].Addenda10.LineNumber", .int 0),
  ("Entries[0].Addenda11", .ref "Entries[0].Addenda11"),
  ("Entries[0].Addenda11.ID", .str "".toList),
  ("Entries[0].Addenda11.TypeCode", .str "11".toList),
  ("Entries[0].Addenda11.OriginatorName", .str "dMvt:AVccGJo u'V4S".toList),
  ("Entries[0].Addenda11.OriginatorStreetAddress", .str "f,IFSLiPusK'NQ)7#17Z".toList),
  ("Entries[0].Addenda11.EntryDetailSequenceNumber", .int 1),
  ("Entries[0].Addenda11.LineNumber", .int 0),
  ("Entries[0].Addenda12", .ref "Entries[0].Addenda12"),
  ("Entries[0].Addenda12.ID", .str "".toList)
]

def iatFields2 : List (String × Val) := [
  ("Entries[0].Addenda12.TypeCode", .str "12".toList),
  ("Entries[0].Addenda12.OriginatorCityStateProvince", .str "Cln Iu3tn8I5*LC\\".toList),
  ("Entries[0].Addenda12.OriginatorCountryPostalCode", .str "US*58550\\".toList),
  ("Entries[0].Addenda12.EntryDetailSequenceNumber", .int 1),
  ("Entries[0].Addenda12.LineNumber", .int 0),
  ("Entries[0].Addenda13", .ref "Entries[0].Addenda13"),
  ("Entries[0].Addenda13.ID", .str "".toList),
  ("Entries[0].Addenda13.TypeCode", .str "13".toList),
  ("Entries[0].Addenda13.ODFIName", .str "TQG.jD.F#6oXSB".toList),
  ("Entries[0].Addenda13.ODFIIDNumberQualifier", .str "03".toList),
  ("Entries[0].Addenda13.ODFIIdentification", .str "40112987603".toList),
  ("Entries[0].Addenda13.ODFIBranchCountryCode", .str "MX".toList),
  ("Entries[0].Addenda13.EntryDetailSequenceNumber", .int 1),
  ("Entries[0].Addenda13.LineNumber", .int 0),
  ("Entries[0].Addenda14", .ref "Entries[0].Addenda14"),
  ("Entries[0].Addenda14.ID", .str "".toList),
  ("Entries[0].Addenda14.TypeCode", .str "14".toList),
  ("Entries[0].Addenda14.RDFIName", .str "9YiFZ#te-aPdEhOeqzYE n7'HA9eX".toList),
  ("Entries[0].Addenda14.RDFIIDNumberQualifier", .str "02".toList),
  ("Entries[0].Addenda14.RDFIIdentification", .str "633569784021591552390242032".toList),
  ("Entries[0].Addenda14.RDFIBranchCountryCode", .str "AU".toList),
  ("Entries[0].Addenda14.EntryDetailSequenceNumber", .int 1),
  ("Entries[0].Addenda14.LineNumber", .int 0),
  ("Entries[0].Addenda15", .ref "Entries[0].Addenda15"),
  ("Entries[0].Addenda15.ID", .str "".toList)
]

def iatFields3 : List (String × Val) := [
  ("Entries[0].Addenda15.TypeCode", .str "15".toList),
  ("Entries[0].Addenda15.ReceiverIDNumber", .str "".toList),
  ("Entries[0].Addenda15.ReceiverStreetAddress", .str "0 D1kJk+d1y #9dX iW  9z(O(1 Tx".toList),
  ("Entries[0].Addenda15.EntryDetailSequenceNumber", .int 1),
  ("Entries[0].Addenda15.LineNumber", .int 0),
  ("Entries[0].Addenda16", .ref "Entries[0].Addenda16"),
  ("Entries[0].Addenda16.ID", .str "".toList),
  ("Entries[0].Addenda16.TypeCode", .str "16".toList),
  ("Entries[0].Addenda16.ReceiverCityStateProvince", .str "wEw#zZ XA,Ab*RV\\".toList),
  ("Entries[0].Addenda16.ReceiverCountryPostalCode", .str "CA*360876\\".toList),
  ("Entries[0].Addenda16.EntryDetailSequenceNumber", .int 1),
  ("Entries[0].Addenda16.LineNumber", .int 0),
  ("Entries[0].Addenda17", .lst "Entries[0].Addenda17" 1),
  ("Entries[0].Addenda17[0].ID", .str "".toList),
  ("Entries[0].Addenda17[0].TypeCode", .str "17".toList),
  ("Entries[0].Addenda17[0].PaymentRelatedInformation", .str "mDtsLST X49   uap&On-nFcBzlnE-+EEpDe,i0".toList),
  ("Entries[0].Addenda17[0].SequenceNumber", .int 1),
  ("Entries[0].Addenda17[0].EntryDetailSequenceNumber", .int 1),
  ("Entries[0].Addenda17[0].LineNumber", .int 0),
  ("Entries[0].Addenda18", .nilp),
  ("Entries[0].Addenda98", .nilp),
  ("Entries[0].Addenda99", .nilp),
  ("Entries[0].Category", .str "Forward".toList),
  ("Entries[0].LineNumber", .int 0),
  ("Control", .ref "Control")
]

def iatFields4 : List (String × Val) := [
  ("Control.ID", .str "".toList),
  ("Control.ServiceClassCode", .int 225),
  ("Control.EntryAddendaCount", .int 9),
  ("Control.EntryHash", .int 29968350),
  ("Control.TotalDebitEntryDollarAmount", .int 1483067),
  ("Control.TotalCreditEntryDollarAmount", .int 0),
  ("Control.CompanyIdentification", .str "XzE3KT".toList),
  ("Control.MessageAuthenticationCode", .str "".toList),
  ("Control.ODFIIdentification", .str "05560351".toList),
  ("Control.BatchNumber", .int 1),
  ("Control.LineNumber", .int 0),
  ("category", .str "Forward".toList)
]

def iatExt : List (String × Bool) := [
  ("iso3166.Valid:US", true),
  ("iso4217.Lookup:CAD", true),
  ("iso4217.Lookup:USD", true)
]

def iatSample : Ctx := { fields := iatFields0 ++ iatFields1 ++ iatFields2 ++ iatFields3 ++ iatFields4, recvFlags := [], paramFlags := [], ext := iatExt }

/-- everything that is claimed of the sample by evaluation, in ONE evaluation, which the kernel's memory of what it has
already reduced makes hardly dearer than its first line alone: `IATBatch.Validate` accepts the sample; with one digit of
the control's hash changed (`Ach.Props.TamperRejectedBatch.tamperedIAT` is that context) `IATBatch.verify` rejects it,
naming the field; and what `sampleIAT` reads off the store.  Proved one by one, each line walks the store again and
turns its keys into bytes again. -/
theorem iat_sample_evaluated :
    (run iatSample v_IATBatch_Validate = .accept ∧
      run { iatSample with fields := ("Control.EntryHash", .int 29968351) :: iatSample.fields } v_IATBatch_verify =
        .reject "EntryHash") ∧
    (lookup iatSample.fields (joinPath iatSample.recv "Header") = .ref "Header" ∧
      lookup iatSample.fields (joinPath iatSample.recv "Control") = .ref "Control" ∧
      lookup iatSample.fields (joinPath iatSample.recv "Entries") = .lst "Entries" 1) ∧
    (lookup iatSample.fields (joinPath "Header" "ServiceClassCode") = .int 225 ∧
      lookup iatSample.fields (joinPath "Control" "ServiceClassCode") = .int 225 ∧
      lookup iatSample.fields (joinPath "Header" "ODFIIdentification") = .str "05560351".toList ∧
      lookup iatSample.fields (joinPath "Control" "ODFIIdentification") = .str "05560351".toList ∧
      lookup iatSample.fields (joinPath "Header" "BatchNumber") = .int 1 ∧
      lookup iatSample.fields (joinPath "Control" "BatchNumber") = .int 1) ∧
    (lookup iatSample.fields (joinPath "Control" "EntryAddendaCount") = .int 9 ∧
      lookup iatSample.fields (joinPath "Control" "EntryHash") = .int 29968350 ∧
      lookup iatSample.fields (joinPath "Control" "TotalCreditEntryDollarAmount") = .int 0 ∧
      lookup iatSample.fields (joinPath "Control" "TotalDebitEntryDollarAmount") = .int 1483067) ∧
    (∀ i, i < 1 → lookup iatSample.fields (joinPath (elemPath "Entries" i) "RDFIIdentification") = .str "29968350".toList) ∧
    (∀ i, i < 1 → lookup iatSample.fields (joinPath (elemPath "Entries" i) "CheckDigit") = .str "0".toList) ∧
    (∀ i, i < 1 → lookup iatSample.fields (joinPath (elemPath "Entries" i) "TraceNumber") = .str "055603510000001".toList) ∧
    (∀ i, i < 1 → lookup iatSample.fields (joinPath (elemPath "Entries" i) "TransactionCode") = .int 47) ∧
    (∀ i, i < 1 → lookup iatSample.fields (joinPath (elemPath "Entries" i) "Amount") = .int 1483067) ∧
    (∀ i, i < 1 → Ach.Props.AcceptedIATCount.iatItems.map (Ach.Props.AcceptedIATCount.itemVal iatSample (elemPath "Entries" i)) =
      [1, 1, 1, 1, 1, 1, 1, 1, 1, 0, 0].map some) ∧
    (∀ i, i < 1 → allAscii "29968350".toList = true) := by
  decide +kernel

/-- the translated `IATBatch.Validate` accepts the sample, and so does `IATBatch.verify`, which it calls -/
theorem iat_sample_validated : run iatSample v_IATBatch_Validate = .accept := iat_sample_evaluated.1.1
theorem iat_sample_verified : run iatSample v_IATBatch_verify = .accept :=
  Ach.Props.AcceptedFileBatches.accepted_iat_validate_verified iatSample iat_sample_validated

/-- the proof fields are the conjuncts of `iat_sample_evaluated`, in its order -/
def sampleIAT : IATStd iatSample where
  hp := "Header"
  cp := "Control"
  p := "Entries"
  n := 1
  hH := iat_sample_evaluated.2.1.1
  hC := iat_sample_evaluated.2.1.2.1
  hE := iat_sample_evaluated.2.1.2.2
  hscc := 225
  cscc := 225
  hbn := 1
  cbn := 1
  hodfi := "05560351".toList
  codfi := "05560351".toList
  h1 := iat_sample_evaluated.2.2.1.1
  h2 := iat_sample_evaluated.2.2.1.2.1
  h5 := iat_sample_evaluated.2.2.1.2.2.1
  h6 := iat_sample_evaluated.2.2.1.2.2.2.1
  h7 := iat_sample_evaluated.2.2.1.2.2.2.2.1
  h8 := iat_sample_evaluated.2.2.1.2.2.2.2.2
  count := 9
  hash := 29968350
  credit := 0
  debit := 1483067
  k1 := iat_sample_evaluated.2.2.2.1.1
  k2 := iat_sample_evaluated.2.2.2.1.2.1
  k3 := iat_sample_evaluated.2.2.2.1.2.2.1
  k4 := iat_sample_evaluated.2.2.2.1.2.2.2
  rdfi := fun _ => "29968350".toList
  cd := fun _ => "0".toList
  tr := fun _ => "055603510000001".toList
  tc := fun _ => 47
  am := fun _ => 1483067
  recs := fun _ => [1, 1, 1, 1, 1, 1, 1, 1, 1, 0, 0]
  e1 := iat_sample_evaluated.2.2.2.2.1
  e2 := iat_sample_evaluated.2.2.2.2.2.1
  e3 := iat_sample_evaluated.2.2.2.2.2.2.1
  e4 := iat_sample_evaluated.2.2.2.2.2.2.2.1
  e5 := iat_sample_evaluated.2.2.2.2.2.2.2.2.1
  e6 := iat_sample_evaluated.2.2.2.2.2.2.2.2.2.1
  ascii := iat_sample_evaluated.2.2.2.2.2.2.2.2.2.2

theorem iat_sample_default_opts : Ach.Props.C03Code.defaultOpts iatSample := fun _ => rfl

/-- the hypotheses of `c03_iat_batch` are satisfiable: it applies to the sample (one entry, nine records).  The first
conjunct recalls the count `sampleIAT` was given; the other two are drawn from the theorem. -/
theorem iat_sample_satisfies_c03 :
    sampleIAT.count = 9 ∧ sampleIAT.hodfi = sampleIAT.codfi ∧
    Ach.Props.AcceptedIATTraces.iatTracePrefix "055603510000001".toList = .str (stringField "05560351".toList 8) := by
  obtain ⟨_, _, _, _, _, hodfi, _, _, hpre, _⟩ := c03_iat_batch iatSample sampleIAT iat_sample_default_opts iat_sample_verified
  exact ⟨rfl, hodfi, hpre 0 (by decide)⟩

end Ach.Props.C03IATSample
