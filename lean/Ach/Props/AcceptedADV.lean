import Ach.Props.AcceptedHash
import Ach.Props.AcceptedCount
import Ach.Props.AcceptedAmounts
/-!
# ADV batches: totals, hash and count of an accepted batch (C03)

The ADV halves of `Batch.isBatchAmount`, `isEntryHash`, `isBatchEntryCount` walk `ADVEntries` and compare with
`ADVControl`.  `Batch.calculateADVBatchAmounts` adds an advice's amount to the credit side for codes 81 83 85 87 and to the
debit side for 82 84 86 88.  The three functions are treated in `AcceptedAmounts`, `AcceptedHash`, `AcceptedCount` with
`Batch.IsADV()`'s answer as a variable; here are the two loop bodies only ADV batches run.
-/
namespace Ach.Props.AcceptedADV
open Ach Ach.GoLite Ach.Gen
open Ach.Props.AcceptedHash Ach.Props.AcceptedAmounts Ach.Props.AcceptedCount

/-- `e.TransactionCode == k` -/
def tcIs (k : Int) : Expr := .eq (.sel (.var "entry") "TransactionCode") (.int k)

/-- `e.TransactionCode == k1 || … == k4`, left-nested as the translator writes an `if` condition -/
def tcIn (k1 k2 k3 k4 : Int) : Expr := .or (.or (.or (tcIs k1) (tcIs k2)) (tcIs k3)) (tcIs k4)

theorem tcIn_eval (c : Ctx) (l : Locals) (ep : String) (t k1 k2 k3 k4 : Int) (hl : lookup l "entry" = .ref ep)
    (ht : lookup c.fields (joinPath ep "TransactionCode") = .int t) :
    eval c l (tcIn k1 k2 k3 k4) = .bool (decide (t = k1 ∨ t = k2 ∨ t = k3 ∨ t = k4)) := by
  have hk : ∀ k, eval c l (tcIs k) = .bool (decide (t = k)) := fun k => by simp [tcIs, eval, hl, ht, cmpVals]
  rw [tcIn, eval_or (eval_or (eval_or (hk k1) (hk k2)) (hk k3)) (hk k4)]
  simp [Bool.or_assoc]

def advAmountBody : Prog :=
  seqs [(.ite (tcIn 81 83 85 87) (.assign "credit" (.add (.var "credit") (.sel (.var "entry") "Amount"))) .skip),
    (.ite (tcIn 82 84 86 88) (.assign "debit" (.add (.var "debit") (.sel (.var "entry") "Amount"))) .skip)]

theorem calculateADVBatchAmounts_shape : v_Batch_calculateADVBatchAmounts = sumsProg "ADVEntries" advAmountBody := rfl

def advCredit (t a : Int) : Int := if t = 81 ∨ t = 83 ∨ t = 85 ∨ t = 87 then a else 0
def advDebit (t a : Int) : Int := if t = 82 ∨ t = 84 ∨ t = 86 ∨ t = 88 then a else 0

theorem advAmountBody_exec (c : Ctx) {ep : String} {t a : Int} (cr d : Int)
    (ht : lookup c.fields (joinPath ep "TransactionCode") = .int t)
    (ha : lookup c.fields (joinPath ep "Amount") = .int a) :
    exec advAmountBody c [("entry", .ref ep), ("debit", .int d), ("credit", .int cr)] =
      ([("entry", .ref ep), ("debit", .int (d + advDebit t a)), ("credit", .int (cr + advCredit t a))], .next) := by
  have hcnd := fun l k1 k2 k3 k4 (hl : lookup l "entry" = .ref ep) => tcIn_eval c l ep t k1 k2 k3 k4 hl ht
  unfold advCredit advDebit
  by_cases hc : t = 81 ∨ t = 83 ∨ t = 85 ∨ t = 87 <;> by_cases hd : t = 82 ∨ t = 84 ∨ t = 86 ∨ t = 88 <;>
    simp [advAmountBody, seqs, exec, hcnd, hc, hd, eval, lookup, ha, arith, update, scopeExit]

/-- `Batch.calculateADVBatchAmounts()` returns (Σ credit advices, Σ debit advices) — any number of advices -/
theorem calculateADVBatchAmounts_spec (c : Ctx) (p : String) (n : Nat) (tc am : Nat → Int)
    (hE : lookup c.fields (joinPath c.recv "ADVEntries") = .lst p n)
    (ht : ∀ i, i < n → lookup c.fields (joinPath (elemPath p i) "TransactionCode") = .int (tc i))
    (ha : ∀ i, i < n → lookup c.fields (joinPath (elemPath p i) "Amount") = .int (am i)) :
    (exec v_Batch_calculateADVBatchAmounts c []).2 =
      .ret (.pair (.int (((List.range n).map (fun i => advCredit (tc i) (am i))).sum))
        (.int (((List.range n).map (fun i => advDebit (tc i) (am i))).sum))) := by
  rw [calculateADVBatchAmounts_shape]
  exact sumsProg_exec c "ADVEntries" advAmountBody p n hE
    (fun i hi cr d => advAmountBody_exec c cr d (ht i hi) (ha i hi))

def advCountBody : Prog :=
  seqs [(.assign "entryCount" (.add (.var "entryCount") (.int 1))),
    (.ite (.ne (.sel (.var "entry") "Addenda99") .nil) (.assign "entryCount" (.add (.var "entryCount") (.int 1))) .skip)]

theorem advCountLoop_eq : advCountLoop = .forEach "entry" (.fld "ADVEntries") advCountBody := rfl

/-- an advice counts one record, two when it carries an Addenda99 -/
def advRecords (c : Ctx) (ep : String) : Option Int :=
  match lookup c.fields (joinPath ep "Addenda99") with
  | .ref _ => some 2
  | .nilp => some 1
  | _ => none

theorem advCountBody_exec (c : Ctx) (ep : String) (k a : Int) (hk : advRecords c ep = some k) :
    exec advCountBody c [("entry", .ref ep), ("_t2", .bool true), ("entryCount", .int a)] =
      ([("entry", .ref ep), ("_t2", .bool true), ("entryCount", .int (a + k))], .next) := by
  unfold advRecords at hk
  split at hk <;> cases hk
  · rename_i hx
    simp [advCountBody, seqs, exec, eval, lookup, hx, cmpVals, arith, update, scopeExit]
    omega
  · rename_i hx
    simp [advCountBody, seqs, exec, eval, lookup, hx, cmpVals, arith, update, scopeExit]

theorem advCountLoop_exec (c : Ctx) (p : String) (n : Nat) (cnt : Nat → Int)
    (hE : lookup c.fields (joinPath c.recv "ADVEntries") = .lst p n)
    (hc : ∀ i, i < n → advRecords c (elemPath p i) = some (cnt i)) :
    exec advCountLoop c [("_t2", .bool true), ("entryCount", .int 0)] =
      ([("_t2", .bool true), ("entryCount", .int ((List.range n).map cnt).sum)], .next) := by
  rw [advCountLoop_eq, forEach_sums (fun a => [("_t2", .bool true), ("entryCount", .int a)]) cnt 0
    (by simp [eval, hE]) (fun i hi a => step_of_exec [_] (advCountBody_exec c _ (cnt i) a (hc i hi)) rfl), Int.zero_add]

/-- C03, ADV batches — for every ADV batch value, of any size: if `Batch.verify()` (translated from the source on this run)
returns nil, the ADV control's totals, entry hash and (unless `UnequalAddendaCounts`) entry/addenda count are the sums
over the advices -/
theorem accepted_adv_batch (c : Ctx) (hp cp p : String) (n : Nat) (tc am : Nat → Int) (r : Nat → Str) (hv cnt : Nat → Int)
    (tcr tdb e k : Int)
    (hH : lookup c.fields (joinPath c.recv "Header") = .ref hp)
    (hsec : lookup c.fields (joinPath hp "StandardEntryClassCode") = .str ['A', 'D', 'V'])
    (hC : lookup c.fields (joinPath c.recv "ADVControl") = .ref cp)
    (hcr : lookup c.fields (joinPath cp "TotalCreditEntryDollarAmount") = .int tcr)
    (hdb : lookup c.fields (joinPath cp "TotalDebitEntryDollarAmount") = .int tdb)
    (he : lookup c.fields (joinPath cp "EntryHash") = .int e)
    (hk : lookup c.fields (joinPath cp "EntryAddendaCount") = .int k)
    (hE : lookup c.fields (joinPath c.recv "ADVEntries") = .lst p n)
    (ht : ∀ i, i < n → lookup c.fields (joinPath (elemPath p i) "TransactionCode") = .int (tc i))
    (ham : ∀ i, i < n → lookup c.fields (joinPath (elemPath p i) "Amount") = .int (am i))
    (hr : ∀ i, i < n → lookup c.fields (joinPath (elemPath p i) "RDFIIdentification") = .str (r i))
    (hc : ∀ i, i < n → rdfiContribution c (r i) = some (hv i))
    (hcn : ∀ i, i < n → advRecords c (elemPath p i) = some (cnt i))
    (ha : run c v_Batch_verify = .accept) :
    tcr = ((List.range n).map (fun i => advCredit (tc i) (am i))).sum ∧
    tdb = ((List.range n).map (fun i => advDebit (tc i) (am i))).sum ∧
    e = leastSignificantDigits (((List.range n).map hv).sum) 10 ∧
    (hasFlag c "recv" "UnequalAddendaCounts" = false → k = ((List.range n).map cnt).sum) := by
  have hadv := Accepted.batch_isADV_true c hp hH hsec
  obtain ⟨t1, t2⟩ := isBatchAmount_accepts c true hadv hC hcr hdb
    (calculateADVBatchAmounts_spec c p n tc am hE ht ham) (run_passes_check Accepted.verify_statements.2 ha (k := 5) rfl)
  exact ⟨t1, t2,
    isEntryHash_accepts c true hadv hC he
      (calculateEntryHash_exec c true hadv
        (hashLoop_exec c "_t2" "ADVEntries" (by decide) (fun a => [("_t3", .bool true), ("hash", .int a)]) (fun _ => rfl)
          (fun _ _ => rfl) p n r hv hE hr hc))
      (run_passes_check Accepted.verify_statements.2 ha (k := 6) rfl),
    fun hf => isBatchEntryCount_accepts c true hadv hf (advCountLoop_exec c p n cnt hE hcn) hC hk
      (run_passes_check Accepted.verify_statements.2 ha (k := 3) rfl)⟩

end Ach.Props.AcceptedADV
