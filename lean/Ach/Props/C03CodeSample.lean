import Ach.Props.C03Code
import Ach.Props.AcceptedSample
/-!
# Non-vacuity of `c03_standard_batch`: the sample file's batch is a `StdBatch`, and the theorem applies to it

`bctx`, the sample file with that batch as the receiver, is defined next to the file, in `AcceptedSample.lean`.
-/
namespace Ach.Props.C03CodeSample
open Ach Ach.GoLite Ach.Gen Ach.Props.AcceptedSample Ach.Props.C03Code

/-- the proof fields are the conjuncts of `AcceptedSample.sample_file_evaluated`, in its order -/
def sampleStd : StdBatch bctx where
  hp := "Batches[0].Header"
  cp := "Batches[0].Control"
  p := "Batches[0].Entries"
  n := 1
  sec := "CCD".toList
  hH := sample_file_evaluated.2.1.1
  hC := sample_file_evaluated.2.1.2.1
  hE := sample_file_evaluated.2.1.2.2.1
  hsec := sample_file_evaluated.2.1.2.2.2.1
  hnadv := sample_file_evaluated.2.1.2.2.2.2
  hscc := 200
  cscc := 200
  hbn := 1
  cbn := 1
  hodfi := "10380340".toList
  codfi := "10380340".toList
  hcid := "535832157".toList
  ccid := "535832157".toList
  h1 := sample_file_evaluated.2.2.1.1
  h2 := sample_file_evaluated.2.2.1.2.1
  h3 := sample_file_evaluated.2.2.1.2.2.1
  h4 := sample_file_evaluated.2.2.1.2.2.2.1
  h5 := sample_file_evaluated.2.2.1.2.2.2.2.1
  h6 := sample_file_evaluated.2.2.1.2.2.2.2.2.1
  h7 := sample_file_evaluated.2.2.1.2.2.2.2.2.2.1
  h8 := sample_file_evaluated.2.2.1.2.2.2.2.2.2.2
  count := 1
  hash := 25607041
  credit := 0
  debit := 696796
  k1 := sample_file_evaluated.2.2.2.1.1
  k2 := sample_file_evaluated.2.2.2.1.2.1
  k3 := sample_file_evaluated.2.2.2.1.2.2.1
  k4 := sample_file_evaluated.2.2.2.1.2.2.2
  rdfi := fun _ => "25607041".toList
  cd := fun _ => "5".toList
  tr := fun _ => "103803400000001".toList
  tc := fun _ => 47
  am := fun _ => 696796
  cnt := fun _ => 0
  e1 := sample_file_evaluated.2.2.2.2.1
  e2 := sample_file_evaluated.2.2.2.2.2.1
  e3 := sample_file_evaluated.2.2.2.2.2.2.1
  e4 := sample_file_evaluated.2.2.2.2.2.2.2.1
  e5 := sample_file_evaluated.2.2.2.2.2.2.2.2.1
  e6 := sample_file_evaluated.2.2.2.2.2.2.2.2.2.1
  ascii := sample_file_evaluated.2.2.2.2.2.2.2.2.2.2

/-- the sample file stores no flags -/
theorem sample_default_opts : defaultOpts bctx := fun _ => rfl

/-- the hypotheses of `c03_standard_batch` are satisfiable: it applies to the sample batch.  Only the last conjunct is
drawn from it; the first two recall the control figures `sampleStd` was given. -/
theorem sample_satisfies_c03 :
    sampleStd.count = 1 ∧ sampleStd.hash = 25607041 ∧ sampleStd.hodfi = sampleStd.codfi :=
  ⟨rfl, rfl, (c03_standard_batch bctx sampleStd sample_default_opts sample_batch_verified).2.2.2.2.2.1⟩

end Ach.Props.C03CodeSample
