import Ach.Proofs.Mask
import Ach.Generated.Mask
/-!
# C20 — achcli masking never reveals protected account data or names

`maskNumber` and `maskName` are modelled on bytes exactly as written
(`Ach.Model.Mask`; tied to cmd/achcli/describe by the `mask` correspondence
stream, exhaustive over short strings, and by the body hashes below).

* `maskNumber_reveals` / `maskNumber_hides` — for **every** string: the first two positions are masked, each output
  byte is `*`, blank or the input byte, at most four bytes are in clear, and a value with ≥ 5 non-blank bytes after
  position 2 always has one of them hidden.  The complement — ≤ 4 non-blank characters preceded by ≥ 2 characters —
  is shown completely: known finding D20 (`mask_short_number_counterexample`).
* `maskName_word` — a word of ≥ 4 runes shows only its first two bytes.
* `describe_masks_protected` (F) — in `File`, `dumpAddenda05` and `dumpAddenda98` of `describe` (the other
  `dumpAddenda*` functions are not covered), the protected values reach `Fprintf` only through the masked variables,
  under the flags the CLI wires to `-mask*`.
-/
namespace Ach.Props.C20
open Ach Ach.Gen

theorem maskNumber_reveals (bs : List UInt8) (length : Nat) (h5 : 5 ≤ length) :
    (maskNumberBytes bs length).take 2 = [star, star] ∧
    onlyMasks ((bs.take length).drop 2).reverse (maskedTail bs length) = true ∧
    revealed ((bs.take length).drop 2).reverse (maskedTail bs length) ≤ 4 :=
  Ach.maskNumber_reveals bs length h5

theorem maskNumber_short_all_stars (bs : List UInt8) (length : Nat) (h : length < 5) :
    maskNumberBytes bs length = List.replicate 5 star := Ach.maskNumber_short bs length h

theorem maskNumber_hides (bs : List UInt8) (length : Nat) (h5 : 5 ≤ length)
    (hnb : nonBlank ((bs.take length).drop 2) ≥ 5) :
    hidesOne ((bs.take length).drop 2).reverse (maskedTail bs length) = true :=
  Ach.maskNumber_hides bs length h5 hnb

/-- the output has exactly as many bytes as the value has runes -/
theorem maskNumber_width (s : Str) (h5 : 5 ≤ s.length) : (maskNumber s).length = s.length :=
  Ach.maskNumber_length (utf8 s) s.length h5 (length_le_utf8_length s)

/-- known finding D20, on the model: a four-character number after two blanks is printed completely -/
theorem mask_short_number_counterexample : maskNumber "  1234".toList = (utf8 "**1234".toList) := by decide +kernel

theorem maskName_word (w : Str) (h : w.length > 3) :
    maskWord w = (utf8 w).take 2 ++ List.replicate (w.length - 2) star ∧
    (maskWord w).drop 2 = List.replicate (w.length - 2) star :=
  ⟨maskWord_long w h, maskWord_hides w h⟩

theorem maskName_short_word (w : Str) (h : w.length ≤ 3) : maskWord w = List.replicate w.length star :=
  maskWord_short w h

def protectedAccessors : List String :=
  ["e.DFIAccountNumberField()", "e.DFIAccountNumber", "e.IndividualNameField()", "e.IndividualName",
   "a.CorrectedData", "a.CorrectedDataField()", "paymentInfo.IndividualName", "paymentInfo.IndividualIdentification",
   "paymentInfo.DFIAccountNumber", "paymentInfo.CustomerSSN", "a.PaymentRelatedInformationField()", "a.PaymentRelatedInformation"]

/-- **describe_masks_protected** (F): in `File`, `dumpAddenda05` and `dumpAddenda98` no protected accessor is handed to
`Fprintf` directly, every masked variable is masked under the flag that the property names, and the CLI wires `-mask` to
all three flags -/
theorem describe_masks_protected :
    ((printArgs.filter (fun p => ["File", "dumpAddenda05", "dumpAddenda98"].contains p.1)).all
        (fun p => p.2.all (fun a => !protectedAccessors.contains a))) = true ∧
    maskCalls = [
      ⟨"File", "accountNumber", "maskNumber", "accountNumber", "opts.MaskAccountNumbers"⟩,
      ⟨"File", "name", "maskName", "name", "opts.MaskNames"⟩,
      ⟨"File", "accountNumber", "maskNumber", "accountNumber", "opts.MaskAccountNumbers"⟩,
      ⟨"dumpAddenda05", "paymentInfo.IndividualName", "maskName", "paymentInfo.IndividualName", "type *ach.BatchENR && paymentInfo != nil && opts.MaskNames"⟩,
      ⟨"dumpAddenda05", "paymentInfo.IndividualIdentification", "maskNumber", "paymentInfo.IndividualIdentification", "type *ach.BatchENR && paymentInfo != nil && opts.MaskAccountNumbers"⟩,
      ⟨"dumpAddenda05", "paymentInfo.DFIAccountNumber", "maskNumber", "paymentInfo.DFIAccountNumber", "type *ach.BatchENR && paymentInfo != nil && opts.MaskAccountNumbers"⟩,
      ⟨"dumpAddenda05", "paymentInfo.CustomerSSN", "maskNumber", "paymentInfo.CustomerSSN", "type *ach.BatchDNE && paymentInfo != nil && (opts.MaskNames || opts.MaskAccountNumbers)"⟩,
      ⟨"dumpAddenda98", "data", "maskNumber", "data", "opts.MaskCorrectedData"⟩] ∧
    describeOptsWiring.contains ("MaskAccountNumbers", "*flagMask || *flagMaskAccounts") = true ∧
    describeOptsWiring.contains ("MaskCorrectedData", "*flagMask || *flagMaskCorrectedData") = true ∧
    describeOptsWiring.contains ("MaskNames", "*flagMask || *flagMaskNames") = true :=
  ⟨by decide +kernel, rfl, by decide +kernel⟩

/-- F: the two mask functions are the ones the model was written against -/
theorem mask_functions_unchanged :
    maskHashes = [("maskNumber", 4286901667357287956), ("maskName", 15877321523339964340)] := rfl

/-- non-vacuity: a 17-byte account number meets the hypothesis of `maskNumber_hides` -/
example : nonBlank (((utf8 "12345678901234567".toList).take 17).drop 2) ≥ 5 := by decide +kernel

end Ach.Props.C20
