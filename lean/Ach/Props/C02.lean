import Ach.Props.Layouts
import Ach.Proofs.Layout
import Ach.Proofs.Compile
import Ach.Proofs.Writer
import Ach.Proofs.IO
/-!
# C02 — every successfully written file is physically well-formed NACHA

Record level: `compile_width` (whatever the extracted facts are, a layout that `compile` accepts is exactly 94 columns
wide), `written_record_94` (every record whose field values are within their widths — `RecFix`, implied by `RecOK` —
renders to exactly 94 characters), `reread_record_94` (so does every record the Reader parsed from a 94-column line).
The per-record obligations `Props.Layouts.layout_X` say that today's source compiles for each of the 26 record types.

File level, on the Writer model (`Ach.Model.Writer`: emission order of `Write` / `writeBatch` / `writeIATBatch` and the
padding loop, over the file's tree shape; tied by the `write` correspondence stream, which compares the kinds of the
records the real Writer emits for generated files of every SEC, IAT and ADV, all record-count residues mod 10):
`written_blocking` (count is a multiple of ten), `written_filler_only_after_control`, `written_order` (the output is in
the grammar FH (BH (ED AD*)* BC)* FC 9* and parses back to the file's tree), `create_counts_physical` (the block count
`File.Create` stores equals the blocks physically written; its record total equals the records emitted).

Line endings, on the byte-level Writer model of C16 (`Ach.Model.IO`, tied by the `io` stream): `written_lines_terminated`
— what a successful `Write` leaves in the sink is exactly every non-empty record followed by the configured line ending,
then the all-9 filler records each followed by it (`C16.write_ok_complete` says the sink holds `render` whenever `Write`
returns nil, for every buffer size and failure plan).
-/
namespace Ach.Props.C02
open Ach.Gen

theorem compile_width (pf : ParseFact) (rf : RenderFact) (L : Layout) (h : compile pf rf = .ok L) :
    Layout.width L = lineLength := Ach.compile_width pf rf L h

theorem written_record_94 (pf : ParseFact) (rf : RenderFact) (L : Layout) (h : compile pf rf = .ok L)
    (ps : Bool) (vs : List Val) (hv : RecFix ps L vs) : (renderRec L vs).length = 94 :=
  (renderRec_length hv).trans (compile_width pf rf L h)

/-- every record the Reader parses from a 94-column line is written back as 94 columns,
for layouts whose converter pairs are all stable -/
theorem reread_record_94 (pf : ParseFact) (rf : RenderFact) (L : Layout) (h : compile pf rf = .ok L)
    (ps : Bool) (hs : ∀ f ∈ L, StableSpec ps f) (line : Str) (hl : line.length = 94) :
    (renderRec L (parseRec ps L line)).length = 94 :=
  written_record_94 pf rf L h ps _ (parseRec_recFix L hs line (hl.trans (compile_width pf rf L h).symm))

open Ach.Writer in
theorem written_blocking (f : WFile) : (write f).length % 10 = 0 := write_length_mod f

open Ach.Writer in
/-- **written_filler_only_after_control**: the output ends with a file control record followed by fewer than ten all-9
records and nothing else; that what precedes is the file's records in order is `written_order` -/
theorem written_filler_only_after_control (f : WFile) : ∃ body, write f = body ++ [Kind.fileControl] ++
    List.replicate (padCount (emit f).length) Kind.filler ∧ padCount (emit f).length < 10 := by
  obtain ⟨body, _, h⟩ := write_tail_filler f
  exact ⟨body, h, (padCount_spec _).2⟩

open Ach.Writer in
/-- **written_order**: file header, then batches of (batch header, entries each immediately followed by their own
addenda, batch control), then one file control, then filler — and that sequence determines the file's tree -/
theorem written_order (f : WFile) : parse (write f) = some f := parse_write f

open Ach.Writer in
theorem create_counts_physical (f : WFile) :
    createTotalRecords f = (emit f).length ∧ createBlockCount f * 10 = (write f).length ∧
    (emit f).count Kind.batchHeader = f.batches.length :=
  ⟨createTotalRecords_eq f, createBlockCount_physical f, emit_count_batchHeader f⟩

/-- non-vacuity: a file with two batches and 2+1 entries carrying 1, 0 and 2 addenda -/
example : (Ach.Writer.write ⟨[⟨[⟨1⟩, ⟨0⟩]⟩, ⟨[⟨2⟩]⟩]⟩).length = 20 := by decide

/-- every record the Writer emits, and every filler record, is followed by the configured line ending and nothing else
separates them -/
theorem written_lines_terminated {α : Type} (cfg : Ach.IO.Cfg α) (f : Ach.IO.WFile α) :
    Ach.IO.render cfg f =
      ((f.lines.filter (fun l => !l.isEmpty)) ++
        List.replicate (Ach.IO.padCount (Ach.IO.countLines f.lines)) cfg.padLine).flatMap (· ++ cfg.ending) := by
  have hlines : ∀ ls : List (List α),
      ls.flatMap (Ach.IO.emitLine cfg) = (ls.filter (fun l => !l.isEmpty)).flatMap (· ++ cfg.ending) := by
    intro ls
    induction ls with
    | nil => rfl
    | cons l ls ih =>
      rw [List.flatMap_cons, ih, Ach.IO.emitLine, List.filter_cons]
      cases l.isEmpty <;> rfl
  -- the filler is `padding` by definition: `(replicate n (padLine ++ ending)).flatten`
  rw [Ach.IO.render, Ach.IO.emitLines, hlines, List.flatMap_append, List.flatMap_replicate]
  rfl

end Ach.Props.C02
