import Ach.Props.Accepted
/-!
# The debit and credit totals of an accepted batch are the sums over its entries (C03)

`Batch.calculateBatchAmounts` walks the entries and adds each amount to the credit or to the debit total by the entry's
transaction code (two `case` lists); `Batch.isBatchAmount` compares the totals with the control.  Both translations are
shown to be — today — the programs below, with the two code lists as data; the loop folds the two running totals
(`exec_forEach_fold`).  `calculateBatchAmounts` and its ADV copy are one program around a slice and a loop body (`sumsProg`; the
IAT copy is the standard program itself), and the two halves of `isBatchAmount` one program with three names as
variables (`amountHalf`).
-/
namespace Ach.Props.AcceptedAmounts
open Ach Ach.GoLite Ach.Gen

/-- `_tag == k1 || _tag == k2 || …` as the translator writes a `case k1, k2, …:` -/
def orEq : List Int → Expr
  | [] => .bool false
  | [k] => .eq (.var "_tag") (.int k)
  | k :: ks => .or (.eq (.var "_tag") (.int k)) (orEq ks)

def creditCodes : List Int := [22, 21, 23, 24, 32, 31, 33, 34, 42, 41, 43, 44, 52, 51, 53, 54]
def debitCodes : List Int := [27, 26, 28, 29, 37, 36, 38, 39, 47, 46, 48, 49, 55, 56]

def amountBody : Prog :=
  .block (seqs [(.bind "_tag" (.sel (.var "entry") "TransactionCode")),
    (.ite (orEq creditCodes)
      (.block (.assign "credit" (.add (.var "credit") (.sel (.var "entry") "Amount"))))
      (.ite (orEq debitCodes)
        (.block (.assign "debit" (.add (.var "debit") (.sel (.var "entry") "Amount"))))
        .skip))])

def amountsProg : Prog :=
  seqs [(.bind "credit" (.int 0)), (.bind "debit" (.int 0)),
    (seqs [(.forEach "entry" (.fld "Entries") amountBody), (.ret (.pair (.var "credit") (.var "debit")))])]

/-- the translated `Batch.calculateBatchAmounts` is that program: the credit codes are all standard credit, return/NOC
credit, prenote credit and zero-dollar credit codes, the debit codes their debit counterparts (loan: 55, 56 only) -/
theorem calculateBatchAmounts_shape : v_Batch_calculateBatchAmounts = amountsProg := rfl

theorem orEq_eval (c : Ctx) (l : Locals) (t : Int) (hl : lookup l "_tag" = .int t) :
    ∀ codes : List Int, codes ≠ [] → eval c l (orEq codes) = .bool (codes.contains t) := by
  intro codes
  induction codes with
  | nil => intro h; exact absurd rfl h
  | cons k ks ih =>
      intro _
      have hk : eval c l (.eq (.var "_tag") (.int k)) = .bool (decide (t = k)) := by simp [eval, hl, cmpVals]
      cases ks with
      | nil => simpa [orEq] using hk
      | cons k2 ks2 =>
          show eval c l (.or _ (orEq (k2 :: ks2))) = _
          rw [eval_or hk (ih (by simp))]
          simp

/-- what an entry with transaction code `t` and amount `a` adds to the credit / debit total -/
def creditPart (t a : Int) : Int := if creditCodes.contains t then a else 0
def debitPart (t a : Int) : Int := if creditCodes.contains t then 0 else if debitCodes.contains t then a else 0

theorem amountBody_exec (c : Ctx) {ep : String} {t a : Int} (cr d : Int)
    (ht : lookup c.fields (joinPath ep "TransactionCode") = .int t)
    (ha : lookup c.fields (joinPath ep "Amount") = .int a) :
    exec amountBody c [("entry", .ref ep), ("debit", .int d), ("credit", .int cr)] =
      ([("entry", .ref ep), ("debit", .int (d + debitPart t a)), ("credit", .int (cr + creditPart t a))], .next) := by
  have hl : lookup [("_tag", Val.int t), ("entry", .ref ep), ("debit", .int d), ("credit", .int cr)] "_tag" = .int t := by
    simp [lookup]
  have h1 := orEq_eval c _ t hl creditCodes (by decide)
  have h2 := orEq_eval c _ t hl debitCodes (by decide)
  unfold creditPart debitPart
  by_cases hc : t ∈ creditCodes
  · simp [amountBody, seqs, exec, eval, lookup, ht, ha, h1, hc, arith, update, scopeExit]
  · by_cases hd : t ∈ debitCodes <;>
      simp [amountBody, seqs, exec, eval, lookup, ht, ha, h1, h2, hc, hd, arith, update, scopeExit]

/-- `calculateBatchAmounts` around a loop body: the body of the standard and of the IAT batch is `amountBody`, the ADV
batch has its own (`Ach.Props.AcceptedADV`); `amountsProg = sumsProg "Entries" amountBody` by `rfl` -/
def sumsProg (coll : String) (body : Prog) : Prog :=
  seqs [(.bind "credit" (.int 0)), (.bind "debit" (.int 0)),
    (seqs [(.forEach "entry" (.fld coll) body), (.ret (.pair (.var "credit") (.var "debit")))])]

theorem sumsProg_exec (c : Ctx) (coll : String) (body : Prog) (p : String) (n : Nat) {cp dp : Nat → Int}
    (hE : lookup c.fields (joinPath c.recv coll) = .lst p n)
    (hbody : ∀ i, i < n → ∀ cr d : Int,
      exec body c [("entry", .ref (elemPath p i)), ("debit", .int d), ("credit", .int cr)] =
        ([("entry", .ref (elemPath p i)), ("debit", .int (d + dp i)), ("credit", .int (cr + cp i))], .next)) :
    (exec (sumsProg coll body) c []).2 =
      .ret (.pair (.int ((List.range n).map cp).sum) (.int ((List.range n).map dp).sum)) := by
  have e2 := exec_forEach_fold (c := c) (v := "entry") (coll := .fld coll) (body := body)
    (fun a : Int × Int => [("debit", .int a.2), ("credit", .int a.1)]) (fun a i => (a.1 + cp i, a.2 + dp i)) (0, 0)
    hE (fun i hi a => step_of_exec [_] (hbody i hi a.1 a.2) rfl)
  rw [foldl_add_sum2] at e2
  simp only [sumsProg, seqs]
  rw [exec_seq_next (exec_bind_int ..), exec_seq_next (exec_bind_int ..), exec_seq_next e2]
  simp [exec, eval, lookup]

/-- `Batch.calculateBatchAmounts()` returns (Σ credit parts, Σ debit parts) — for batches of any size -/
theorem calculateBatchAmounts_spec (c : Ctx) (p : String) (n : Nat) (tc am : Nat → Int)
    (hE : lookup c.fields (joinPath c.recv "Entries") = .lst p n)
    (ht : ∀ i, i < n → lookup c.fields (joinPath (elemPath p i) "TransactionCode") = .int (tc i))
    (ha : ∀ i, i < n → lookup c.fields (joinPath (elemPath p i) "Amount") = .int (am i)) :
    (exec v_Batch_calculateBatchAmounts c []).2 =
      .ret (.pair (.int (((List.range n).map (fun i => creditPart (tc i) (am i))).sum))
        (.int (((List.range n).map (fun i => debitPart (tc i) (am i))).sum))) := by
  rw [calculateBatchAmounts_shape]
  exact sumsProg_exec c "Entries" amountBody p n hE
    (fun i hi cr d => amountBody_exec c cr d (ht i hi) (ha i hi))

/-- one half of `isBatchAmount`: call `fn`, compare what it returns with the control record `ctl`; the translator
numbers the temporary `_t1` in the standard half and `_t2` in the ADV half -/
def amountHalf (t : String) (fn : Prog) (ctl : String) : Prog :=
  seqs [(seqs [(.sub t [] [] fn), (.assign2 "credit" "debit" (.var t))]),
    (.ite (.ne (.var "debit") (.sel (.fld ctl) "TotalDebitEntryDollarAmount")) (.ret (.mkErr "TotalDebitEntryDollarAmount")) .skip),
    (.ite (.ne (.var "credit") (.sel (.fld ctl) "TotalCreditEntryDollarAmount")) (.ret (.mkErr "TotalCreditEntryDollarAmount")) .skip)]

def isBatchAmountProg : Prog :=
  seqs [(seqs [(.bind "credit" (.int 0)), (.bind "debit" (.int 0))]),
    (.block (seqs [(.sub "_t3" [] [] v_Batch_IsADV),
      (.ite (.not (.var "_t3"))
        (amountHalf "_t1" v_Batch_calculateBatchAmounts "Control")
        (amountHalf "_t2" v_Batch_calculateADVBatchAmounts "ADVControl"))])),
    (.ret .nil)]

theorem isBatchAmount_shape : v_Batch_isBatchAmount = isBatchAmountProg := rfl

theorem amountHalf_next (c : Ctx) {t : String} {fn : Prog} {ctl cp : String} {b : Bool} {C D tcr tdb : Int}
    (h1 : (t == "credit") = false) (h2 : (t == "debit") = false)
    (hcalc : (exec fn c []).2 = .ret (.pair (.int C) (.int D)))
    (hC : lookup c.fields (joinPath c.recv ctl) = .ref cp)
    (hcr : lookup c.fields (joinPath cp "TotalCreditEntryDollarAmount") = .int tcr)
    (hdb : lookup c.fields (joinPath cp "TotalDebitEntryDollarAmount") = .int tdb)
    (h : (exec (amountHalf t fn ctl) c [("_t3", .bool b), ("debit", .int 0), ("credit", .int 0)]).2 = .next) :
    tcr = C ∧ tdb = D := by
  have e1 : exec (.seq (.sub t [] [] fn) (.assign2 "credit" "debit" (.var t))) c
      [("_t3", .bool b), ("debit", .int 0), ("credit", .int 0)] =
      ([(t, .pair (.int C) (.int D)), ("_t3", .bool b), ("debit", .int D), ("credit", .int C)], .next) := by
    simp [exec, eval, hcalc, subResult, lookup, update, h1, h2]
  simp only [amountHalf, seqs] at h
  rw [exec_seq_next e1] at h
  obtain ⟨hd, e2⟩ := guard_next (seq_next_left h)
  rw [exec_seq_next e2] at h
  have hc := (guard_next h).1
  simp [eval, lookup, hC, hcr, hdb, cmpVals, h1, h2] at hd hc
  exact ⟨hc.symm, hd.symm⟩

/-- `Batch.isBatchAmount()` returns nil only if the control record of the batch's kind carries the totals that the
`calculate…BatchAmounts` of that kind returns -/
theorem isBatchAmount_accepts (c : Ctx) (b : Bool) (hadv : (exec v_Batch_IsADV c []).2 = .ret (.bool b)) {cp : String}
    {C D tcr tdb : Int}
    (hC : lookup c.fields (joinPath c.recv (bif b then "ADVControl" else "Control")) = .ref cp)
    (hcr : lookup c.fields (joinPath cp "TotalCreditEntryDollarAmount") = .int tcr)
    (hdb : lookup c.fields (joinPath cp "TotalDebitEntryDollarAmount") = .int tdb)
    (hcalc : (exec (bif b then v_Batch_calculateADVBatchAmounts else v_Batch_calculateBatchAmounts) c []).2 =
      .ret (.pair (.int C) (.int D)))
    (h : (exec v_Batch_isBatchAmount c []).2 = .ret (.err none)) : tcr = C ∧ tdb = D := by
  have e0 : exec (.seq (.bind "credit" (.int 0)) (.bind "debit" (.int 0))) c [] =
      ([("debit", .int 0), ("credit", .int 0)], .next) := by
    rw [exec_seq_next (exec_bind_int ..), exec_bind_int]
  simp only [isBatchAmount_shape, isBatchAmountProg, seqs] at h
  rw [exec_seq_next e0] at h
  have hhalf := accept_seq_left (by decide) h
  rw [exec_callSwitch_sig hadv] at hhalf
  cases b <;> exact amountHalf_next c (by decide) (by decide) hcalc hC hcr hdb hhalf

/-- the statement of `Batch.verify` that runs `isBatchAmount` is the sixth, and the five before it can only reject -/
theorem verify_runs_amount_check :
    (stmts v_Batch_verify).drop 5 = (.check none v_Batch_isBatchAmount) :: (stmts v_Batch_verify).drop 6 ∧
    (stmts v_Batch_verify).drop 6 ≠ [] ∧
    ((stmts v_Batch_verify).take 5).all (fun q => rejectOnly q && noAssign q) = true :=
  ⟨rfl, by decide +kernel, by decide +kernel⟩

/-- C03, debit and credit totals — for every standard (non-ADV) batch value, of any size: if `Batch.verify()`
(translated from the source on this run) returns nil, the control's credit total is the sum of the amounts of the entries
whose transaction code is a credit code, and its debit total the sum over the debit codes -/
theorem accepted_batch_totals (c : Ctx) (hp cp p : String) (n : Nat) (tc am : Nat → Int) (sec : Str) (tcr tdb : Int)
    (hH : lookup c.fields (joinPath c.recv "Header") = .ref hp)
    (hsec : lookup c.fields (joinPath hp "StandardEntryClassCode") = .str sec) (hnadv : sec ≠ ['A', 'D', 'V'])
    (hC : lookup c.fields (joinPath c.recv "Control") = .ref cp)
    (hcr : lookup c.fields (joinPath cp "TotalCreditEntryDollarAmount") = .int tcr)
    (hdb : lookup c.fields (joinPath cp "TotalDebitEntryDollarAmount") = .int tdb)
    (hE : lookup c.fields (joinPath c.recv "Entries") = .lst p n)
    (ht : ∀ i, i < n → lookup c.fields (joinPath (elemPath p i) "TransactionCode") = .int (tc i))
    (ham : ∀ i, i < n → lookup c.fields (joinPath (elemPath p i) "Amount") = .int (am i))
    (ha : run c v_Batch_verify = .accept) :
    tcr = ((List.range n).map (fun i => creditPart (tc i) (am i))).sum ∧
    tdb = ((List.range n).map (fun i => debitPart (tc i) (am i))).sum :=
  isBatchAmount_accepts c false (Accepted.batch_isADV_false c hp sec hH hsec hnadv) hC hcr hdb
    (calculateBatchAmounts_spec c p n tc am hE ht ham) (run_passes_check Accepted.verify_statements.2 ha (k := 5) rfl)

/-- the code lists are disjoint, so every entry counts on one side at most -/
theorem credit_debit_disjoint : creditCodes.all (fun k => !debitCodes.contains k) = true := by decide +kernel

end Ach.Props.AcceptedAmounts
