import Ach.Model.Reversal
import Ach.Generated.Topics
import Ach.Proofs.Classify
/-!
# C13 — Reversal flips every entry and yields a valid reversing file

The code switch of `File.Reversal` is interpreted from the table `Ach.Gen.sw_Reversal`, re-extracted from reversal.go
on every run; the classification tables are those of `calculateBatchAmounts`, `StandardTransactionCode` and
`CreditOrDebit`.  What the property asks of the switch, code by code, is checked by evaluation over that table
(`reversal_code_map`); the theorems about batches follow from it through lemmas about `reverseBatch` over an
arbitrary table.  That the reversing file is valid (`Create`, `Validate` of the result) is not proved: oracle only.
-/
namespace Ach.Props.C13
open Ach Ach.Gen

/-- F: the switch has the expected shape and every effect text is understood. -/
theorem reversal_switch_decodes : revTable.isSome = true := by decide +kernel

/-- the decoded table (total thanks to `reversal_switch_decodes`) -/
def tbl : List RevClause := revTable.getD []

/-- everything the property asks of one transaction code -/
def codeOK (c : Int) : Bool :=
  let r := reverseCode tbl c
  -- the result is a standard code of the opposite direction …
  standardEntryCodes.contains r.1 &&
  creditOrDebit c ≠ .neither && creditOrDebit r.1 ≠ .neither && creditOrDebit r.1 ≠ creditOrDebit c &&
  -- … within the same account type (checking 2x, savings 3x, GL 4x, loan 5x) …
  r.1 / 10 = c / 10 &&
  -- … the hasCredits / hasDebits flags describe the direction of the *new* code …
  (r.2.1 == (creditOrDebit r.1 == .credit)) && (r.2.2 == (creditOrDebit r.1 == .debit)) &&
  -- … and reversing twice restores the original code
  (reverseCode tbl r.1).1 = c

/-- **reversal_code_map**: for every transaction code in the property's domain
(all standard entry codes except loan prenote 53 and loan zero-dollar 54) the
switch flips the direction inside the account type, lands on a standard code,
reports the new direction in its flags, and is an involution. -/
theorem reversal_code_map : ∀ c ∈ reversibleCodes, codeOK c = true := by decide +kernel

/-- F: the domain really is the 28 codes the property names -/
theorem reversible_domain :
    reversibleCodes = [21, 22, 23, 24, 26, 27, 28, 29, 31, 32, 33, 34, 36, 37, 38, 39,
                       41, 42, 43, 44, 46, 47, 48, 49, 51, 52, 55, 56] := by decide +kernel

/-- F: direction by second digit agrees with the credit/debit lists that `calculateBatchAmounts` sums -/
theorem direction_agrees_with_totals :
    (∀ c ∈ creditCodes, creditOrDebit c = .credit) ∧ (∀ c ∈ debitCodes, creditOrDebit c = .debit) ∧
    (∀ c ∈ standardEntryCodes, creditCodes.contains c || debitCodes.contains c) := by decide +kernel

def isCredit (c : Int) : Bool := creditOrDebit c == .credit
def isDebit (c : Int) : Bool := creditOrDebit c == .debit

theorem isDebit_eq_not_isCredit {c : Int} (h : creditOrDebit c ≠ .neither) : isDebit c = !isCredit c := by
  unfold isDebit isCredit
  generalize creditOrDebit c = d at h
  cases d with
  | neither => exact absurd rfl h
  | credit => rfl
  | debit => rfl

/-! What `reverseBatch` does with an arbitrary table `t`.  The theorems about `tbl` below only instantiate these:
`tbl` is a closed term, and the kernel evaluates it (string comparisons over the whole generated switch) as soon as
it has to compare a projection of `reverseCode tbl _` with anything but itself. -/

theorem reverseBatch_entries (t : List RevClause) (date : List Char) (b : RBatch) :
    (reverseBatch t date b).entries = b.entries.map (fun e => { e with code := (reverseCode t e.code).1 }) := rfl

theorem reverseBatch_twice (t : List RevClause) (d1 d2 : List Char) (b : RBatch)
    (h : ∀ e ∈ b.entries, (reverseCode t (reverseCode t e.code).1).1 = e.code) :
    (reverseBatch t d2 (reverseBatch t d1 b)).entries.map (·.code) = b.entries.map (·.code) := by
  simp only [reverseBatch_entries, List.map_map]
  exact List.map_congr_left h

/-- if the switch raises, for every entry, exactly the flag of the new code's direction, and that direction is credit or
debit, then the class chosen from the flags is the class of the new entries -/
theorem reverseBatch_serviceClass (t : List RevClause) (date : List Char) (b : RBatch) (hne : b.entries ≠ [])
    (h : ∀ e ∈ b.entries, let r := reverseCode t e.code
      r.2.1 = isCredit r.1 ∧ r.2.2 = isDebit r.1 ∧ creditOrDebit r.1 ≠ .neither) :
    (reverseBatch t date b).serviceClass =
      (if (reverseBatch t date b).entries.all (fun e => isCredit e.code) = true then K.CreditsOnly
       else if (reverseBatch t date b).entries.all (fun e => isDebit e.code) = true then K.DebitsOnly
       else K.MixedDebitsAndCredits) ∧
    (reverseBatch t date b).ctlServiceClass = (reverseBatch t date b).serviceClass := by
  have hrs : b.entries.map (fun e => reverseCode t e.code) =
      b.entries.map (fun e => ((reverseCode t e.code).1, isCredit (reverseCode t e.code).1, isDebit (reverseCode t e.code).1)) :=
    List.map_congr_left fun e he => Prod.ext rfl (Prod.ext (h e he).1 (h e he).2.1)
  have key := fun old => Ach.Proofs.classify_flags K.MixedDebitsAndCredits K.DebitsOnly K.CreditsOnly old b.entries
    (fun e => isCredit (reverseCode t e.code).1) (fun e => isDebit (reverseCode t e.code).1) hne
    fun e he => isDebit_eq_not_isCredit (h e he).2.2
  simp only [reverseBatch, serviceClassFor, hrs, List.any_map, List.all_map, Function.comp_def]
  exact ⟨key _, (key _).trans (key _).symm⟩

/-- `reversal_code_map` clause by clause, for one code `c` of the domain and what the switch returns for it -/
theorem code_spec {c : Int} (h : c ∈ reversibleCodes) :
    let r := reverseCode tbl c
    standardEntryCodes.contains r.1 = true ∧ creditOrDebit r.1 ≠ .neither ∧ creditOrDebit r.1 ≠ creditOrDebit c ∧
    r.1 / 10 = c / 10 ∧ r.2.1 = isCredit r.1 ∧ r.2.2 = isDebit r.1 ∧ (reverseCode tbl r.1).1 = c := by
  have h := reversal_code_map c h
  simp only [codeOK, Bool.and_eq_true, decide_eq_true_eq, beq_iff_eq, ne_eq] at h
  obtain ⟨⟨⟨⟨⟨⟨⟨h1, _⟩, h3⟩, h4⟩, h5⟩, h6⟩, h7⟩, h8⟩ := h
  exact ⟨h1, h3, h4, h5, h6, h7, h8⟩

/-- amounts, account numbers and trace numbers are untouched; only codes change -/
theorem reversal_preserves_entries (date : List Char) (b : RBatch) :
    (reverseBatch tbl date b).entries.map (fun e => (e.amount, e.account, e.trace)) =
      b.entries.map (fun e => (e.amount, e.account, e.trace)) := by
  rw [reverseBatch_entries, List.map_map]; rfl

theorem reversal_description_date (date : List Char) (b : RBatch) :
    (reverseBatch tbl date b).description = "REVERSAL".toList ∧ (reverseBatch tbl date b).effectiveDate = date :=
  ⟨rfl, rfl⟩

theorem reversal_totals_swapped (date : List Char) (b : RBatch) :
    (reverseBatch tbl date b).ctlDebit = b.ctlCredit ∧ (reverseBatch tbl date b).ctlCredit = b.ctlDebit :=
  ⟨rfl, rfl⟩

/-- every entry of a batch over the domain has its direction flipped inside its account type -/
theorem reversal_flips_direction (date : List Char) (b : RBatch)
    (hdom : ∀ e ∈ b.entries, e.code ∈ reversibleCodes) :
    (reverseBatch tbl date b).entries = b.entries.map (fun e => { e with code := (reverseCode tbl e.code).1 }) ∧
    ∀ e ∈ b.entries,
      creditOrDebit (reverseCode tbl e.code).1 ≠ creditOrDebit e.code ∧
      creditOrDebit (reverseCode tbl e.code).1 ≠ .neither ∧
      (reverseCode tbl e.code).1 / 10 = e.code / 10 ∧
      standardEntryCodes.contains (reverseCode tbl e.code).1 = true :=
  ⟨rfl, fun e he => have ⟨h1, h2, h3, h4, _⟩ := code_spec (hdom e he); ⟨h3, h2, h4, h1⟩⟩

theorem reversal_twice_codes (d1 d2 : List Char) (b : RBatch)
    (hdom : ∀ e ∈ b.entries, e.code ∈ reversibleCodes) :
    (reverseBatch tbl d2 (reverseBatch tbl d1 b)).entries.map (·.code) = b.entries.map (·.code) :=
  reverseBatch_twice tbl d1 d2 b fun e he => (code_spec (hdom e he)).2.2.2.2.2.2

/-- the service class written to header and control matches the new directions:
credits-only iff every new entry is a credit, debits-only iff every one is a debit, mixed otherwise -/
theorem reversal_service_class (date : List Char) (b : RBatch) (hne : b.entries ≠ [])
    (hdom : ∀ e ∈ b.entries, e.code ∈ reversibleCodes) :
    (reverseBatch tbl date b).serviceClass =
      (if (reverseBatch tbl date b).entries.all (fun e => isCredit e.code) = true then K.CreditsOnly
       else if (reverseBatch tbl date b).entries.all (fun e => isDebit e.code) = true then K.DebitsOnly
       else K.MixedDebitsAndCredits) ∧
    (reverseBatch tbl date b).ctlServiceClass = (reverseBatch tbl date b).serviceClass :=
  reverseBatch_serviceClass tbl date b hne fun e he =>
    have ⟨_, h2, _, _, h5, h6, _⟩ := code_spec (hdom e he); ⟨h5, h6, h2⟩

/-- non-vacuity: a mixed PPD-like batch over the domain satisfies the hypotheses -/
example : let b : RBatch := { serviceClass := 200, description := "PAYROLL".toList, effectiveDate := "240101".toList,
                              entries := [⟨22, 100, "12".toList, "1".toList⟩, ⟨27, 50, "34".toList, "2".toList⟩, ⟨55, 7, "56".toList, "3".toList⟩],
                              ctlDebit := 57, ctlCredit := 100, ctlServiceClass := 200 }
    b.entries ≠ [] ∧ (∀ e ∈ b.entries, e.code ∈ reversibleCodes) ∧
    (reverseBatch tbl "240102".toList b).entries.map (·.code) = [27, 22, 52] := by decide +kernel

/-- F: `File.Reversal` has the body `Ach.Model.Reversal` was written against (its switch is interpreted from the generated table) -/
theorem reversal_function_unchanged : hashes_reversal = [("File.Reversal", 3157941019159632718)] := rfl

end Ach.Props.C13
