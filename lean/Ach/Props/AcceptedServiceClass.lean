import Ach.Props.AcceptedAmounts
import Ach.Props.AcceptedFileBatches
/-!
# Every entry of an accepted batch respects a credits-only / debits-only service class (C03)

Each `BatchXXX.Validate` walks its entries and calls `ValidTranCodeForServiceClassCode(entry)`.  For the validators whose
translated loop has the shape `shapeOK` (20 of the 21 standard classes today: CTX assigns to a counter in the loop
before the call and stays on the hand-written model), an accepting run called it for **every** entry and it returned
nil; and that function, translated too, returns nil only if a 220 batch entry is a credit and a 225 batch entry a debit
(by `EntryDetail.CreditOrDebit`, translated as well: the second digit of the transaction code).
-/

namespace Ach.Props.AcceptedServiceClass
open Ach Ach.GoLite Ach.Gen Ach.Props.AcceptedFileBatches

/-- statements that leave the locals exactly as they were when they pass control on -/
def keeps : Prog → Bool
  | .ite _ t e => noAssign t && noAssign e
  | .block p => noAssign p
  | .check _ _ => true
  | .checkOn _ _ _ _ _ => true
  | .skip => true
  | _ => false

theorem keeps_scoped_calm {p : Prog} (hk : keeps p = true) : isScope p = true ∧ calm p = true := by
  cases p <;> simp [keeps] at hk <;> simp [isScope, calm, hk, calm_of_noAssign]

theorem keeps_exact (p : Prog) (hk : keeps p = true) (c : Ctx) (l : Locals) (h : passing (exec p c l).2) :
    (exec p c l).2 = .next ∧ (exec p c l).1 = l := by
  rw [calm_scoped p (keeps_scoped_calm hk).1 (keeps_scoped_calm hk).2 c l h]
  exact ⟨rfl, rfl⟩

/-- falling through a sequence of such statements leaves the locals as they were and reaches the rest -/
theorem keeps_drop (c : Ctx) :
    ∀ (ps : List Prog) (rest : Prog) (l : Locals), (∀ p ∈ ps, keeps p = true) →
      (exec (seqs (ps ++ [rest])) c l).2 = .next → (exec rest c l).2 = .next := by
  intro ps rest l hall h
  obtain ⟨l', rfl, h'⟩ := next_reaches c (· = l) ps rest [] l
    (fun p hp l1 e hn => by rw [(keeps_exact p (hall p hp) c l1 (Or.inl hn)).2, e]) rfl h
  exact h'

/-- the names a statement declares at its own level when it passes control on: nothing for the statements `keeps`
describes, the bound names for declarations and calls that bind their result, both parts for a sequence -/
def declares : Prog → Option (List String)
  | .bind x _ => some [x]
  | .bind2 x y _ => some [y, x]
  | .sub x _ _ _ => some [x]
  | .subOn x _ _ _ _ => some [x]
  | .seq a b => match declares a, declares b with
      | some da, some db => some (db ++ da)
      | _, _ => none
  | p => if keeps p then some [] else none

theorem declares_exact : ∀ (p : Prog) (names : List String), declares p = some names → ∀ (c : Ctx) (l : Locals),
    (exec p c l).2 = .next → ∃ pre, (exec p c l).1 = pre ++ l ∧ pre.map Prod.fst = names := by
  -- a call that binds its result to `x`
  have call : ∀ x (c : Ctx) l, _ ∧ _ := fun x c l =>
    sub_cases (fun r => r.2 = .next → ∃ pre, r.1 = pre ++ l ∧ pre.map Prod.fst = [x]) x c l (fun w h => by cases h)
      (fun s h => by obtain ⟨v, hv⟩ := subResult_passing x l s (Or.inl h); rw [hv]; exact ⟨[(x, v)], rfl, rfl⟩)
  intro p
  fun_induction declares p with
  | case1 x e =>
      intro names hd c l h
      cases hd
      simp only [exec] at h ⊢
      split at h
      · cases h
      · exact ⟨[(x, _)], rfl, rfl⟩
  | case2 x y e =>
      intro names hd c l h
      cases hd
      simp only [exec] at h ⊢
      split at h
      · exact ⟨[(y, _), (x, _)], rfl, rfl⟩
      · cases h
  | case3 x params args body => intro names hd c l; cases hd; exact (call x c l).1 params args body
  | case4 x recv params args body => intro names hd c l; cases hd; exact (call x c l).2 recv params args body
  | case5 a b da db hdb hda iha ihb =>
      intro names hd c l h
      cases hd
      have ha := seq_next_left h
      obtain ⟨p1, hp1, hn1⟩ := iha da hda c l ha
      rw [exec_seq_of_next ha] at h ⊢
      obtain ⟨p2, hp2, hn2⟩ := ihb db hdb c _ h
      exact ⟨p2 ++ p1, by rw [hp2, hp1, List.append_assoc], by rw [List.map_append, hn2, hn1]⟩
  | case6 a b hnone => intro names hd; cases hd
  | case7 p _ _ _ _ _ hk =>
      intro names hd c l h
      cases hd
      exact ⟨[], (keeps_exact _ hk c l (Or.inl h)).2, rfl⟩
  | case8 p => intro names hd; cases hd

theorem declares_lookup {p : Prog} {names : List String} (hd : declares p = some names) {x : String} (hx : x ∉ names)
    (c : Ctx) (l : Locals) (h : (exec p c l).2 = .next) : lookup (exec p c l).1 x = lookup l x := by
  obtain ⟨pre, hp, hn⟩ := declares_exact p names hd c l h
  rw [hp, lookup_append_of_not_mem pre l x (by rw [hn]; exact hx)]

/-- the call `b.ValidTranCodeForServiceClassCode(entry)` as it stands in the loops -/
def svcCall : Prog := .checkOn none .self ["entry"] [(.var "entry")] v_Batch_ValidTranCodeForServiceClassCode

/-- where the entry loop stands in a validator, and its body -/
def loopOf (P : Prog) : Option (Nat × Prog) :=
  let S := stmts P
  match S.findIdx? (fun q => match q with | .forEach "entry" (.fld "Entries") _ => true | _ => false) with
  | some k => match S[k]? with
    | some (.forEach _ _ b) => some (k, b)
    | _ => none
  | none => none

/-- where the call stands in the loop body -/
def callAt (b : Prog) : Option Nat := (stmts b).findIdx? (fun q => q == svcCall)

theorem loopOf_spec {P : Prog} {k : Nat} {b : Prog} (h : loopOf P = some (k, b)) :
    (stmts P)[k]? = some (.forEach "entry" (.fld "Entries") b) := by
  simp only [loopOf] at h
  split at h
  · rename_i k' hk
    split at h
    · rename_i x e b' hS
      cases h
      -- the statement at `k` passed the test of `findIdx?`, so its variable and collection are the ones asked for
      obtain ⟨hlt, hp, -⟩ := List.findIdx?_eq_some_iff_getElem.1 hk
      rw [hS]
      rw [List.getElem?_eq_getElem hlt] at hS
      rw [Option.some.inj hS] at hp
      split at hp
      · rename_i h'
        cases h'
        rfl
      · cases hp
    · cases h
  · cases h

theorem callAt_spec {b : Prog} {j : Nat} (h : callAt b = some j) : (stmts b)[j]? = some svcCall := by
  obtain ⟨hlt, hp, -⟩ := List.findIdx?_eq_some_iff_getElem.1 h
  rw [List.getElem?_eq_getElem hlt, eq_of_beq hp]

/-- the shape `svc_checked` asks for: the entry loop stands behind statements that can only reject and assign nothing,
can itself only reject, and is not the last statement; its body assigns nothing and reaches the call behind statements that do not declare
`entry` again (the two `==` tests restate what `loopOf` and `callAt` found, in the form the proof takes them) -/
def shapeOK (P : Prog) : Bool :=
  match loopOf P with
  | some (k, b) =>
      let S := stmts P
      (S[k]? == some (.forEach "entry" (.fld "Entries") b)) &&
      (S.take k).all (fun q => rejectOnly q && quiet q) && rejectOnly (.forEach "entry" (.fld "Entries") b) &&
      decide (k + 1 < S.length) && noAssign b &&
      (match callAt b with
       | some j => ((stmts b)[j]? == some svcCall) &&
           ((stmts b).take j).all (fun q => match declares q with | some names => !names.contains "entry" | none => false)
       | none => false)
  | none => false

/-- `shapeOK` without its two `==` tests, which hold whenever `loopOf` and `callAt` find something (`loopOf_spec`,
`callAt_spec`).  This is what is evaluated on the table: deciding that a loop equals itself walks the whole loop, names
byte by byte, and would dominate the evaluation. -/
def shapeRest (P : Prog) : Bool :=
  match loopOf P with
  | some (k, b) =>
      let S := stmts P
      (S.take k).all (fun q => rejectOnly q && quiet q) && rejectOnly (.forEach "entry" (.fld "Entries") b) &&
      decide (k + 1 < S.length) && noAssign b &&
      (match callAt b with
       | some j =>
           ((stmts b).take j).all (fun q => match declares q with | some names => !names.contains "entry" | none => false)
       | none => false)
  | none => false

theorem shapeOK_eq (P : Prog) : shapeOK P = shapeRest P := by
  unfold shapeOK shapeRest
  split
  · rename_i k b hl
    simp only [loopOf_spec hl, beq_self_eq_true, Bool.true_and]
    split
    · rename_i j hc
      simp only [callAt_spec hc, beq_self_eq_true, Bool.true_and]
    · rfl
  · rfl

/-- the classes whose validator has that shape today -/
def shapedClasses : List String :=
  ["BatchACK", "BatchARC", "BatchATX", "BatchBOC", "BatchCCD", "BatchCIE", "BatchCOR", "BatchDNE", "BatchENR", "BatchMTE",
   "BatchPOP", "BatchPOS", "BatchPPD", "BatchRCK", "BatchSHR", "BatchTEL", "BatchTRC", "BatchTRX", "BatchWEB", "BatchXCK"]

theorem validators_walk_entries :
    dispatchTable.all (fun tp => !shapedClasses.contains tp.1 || shapeOK tp.2) = true ∧
    shapedClasses.all (fun n => (dispatchTable.lookup n).isSome) = true := by
  simp only [shapeOK_eq]
  decide +kernel

theorem shaped_validator {name : String} {P : Prog} (hm : (name, P) ∈ dispatchTable) (hshaped : name ∈ shapedClasses) :
    shapeOK P = true := by
  simpa [hshaped] using List.all_eq_true.mp validators_walk_entries.1 (name, P) hm

theorem svcCall_passes {c : Ctx} {ep : String} {l : Locals} (hl : lookup l "entry" = .ref ep)
    (h : (exec svcCall c l).2 = .next) :
    (exec v_Batch_ValidTranCodeForServiceClassCode c [("entry", .ref ep)]).2 = .ret (.err none) := by
  simpa [eval, hl] using checkOn_passes (p := c.recv) rfl h

/-- a validator of that shape, when it returns nil, called `ValidTranCodeForServiceClassCode` for every entry of the batch,
and every call returned nil -/
theorem svc_checked (P : Prog) (hsh : shapeOK P = true) (c : Ctx) (p : String) (n : Nat)
    (hE : lookup c.fields (joinPath c.recv "Entries") = .lst p n) (ha : (exec P c []).2 = .ret (.err none)) :
    ∀ i, i < n → (exec v_Batch_ValidTranCodeForServiceClassCode c [("entry", .ref (elemPath p i))]).2 = .ret (.err none) := by
  unfold shapeOK at hsh
  split at hsh
  · rename_i k b _
    simp only [Bool.and_eq_true, beq_iff_eq, decide_eq_true_eq] at hsh
    obtain ⟨⟨⟨⟨⟨h1, h2⟩, h3⟩, h4⟩, h5⟩, h6⟩ := hsh
    split at h6
    · rename_i j _
      simp only [Bool.and_eq_true, beq_iff_eq] at h6
      intro i hi
      -- the loop fell through, so its body did on entry `i`
      obtain ⟨pre, hloop⟩ := accept_passes (drop_of_getElem_some h1) (calm_of_all calm_of_quiet h2) h3 ha
      have hbody := forEach_visits (calm_of_noAssign b h5) hloop hE i hi
      -- the statements of the body before the call leave `entry` alone
      obtain ⟨l', hl', hcall⟩ := next_passes (drop_of_getElem_some h6.1) (lookup · "entry" = .ref (elemPath p i))
        (fun q hq l hl hn => by
          have hq := List.all_eq_true.mp h6.2 q hq
          split at hq
          · rename_i names hdq
            rw [declares_lookup hdq (by simpa using hq) c l hn, hl]
          · cases hq)
        (by simp [lookup]) hbody
      exact svcCall_passes hl' hcall
    · cases h6
  · cases hsh

/-- the transaction codes of ADV entries, which no standard batch may hold -/
def advCodes : List Int := [81, 83, 85, 87, 82, 84, 86, 88]

open Ach.Props.AcceptedAmounts in
def advGuard : Prog :=
  .block (seqs [(.bind "_tag" (.sel (.var "entry") "TransactionCode")),
    (.ite (orEq advCodes) (.block (.ret (.mkErr "TransactionCode"))) .skip)])

/-- `if entry.CreditOrDebit() != d { return error }`, the direction held in `x` -/
def dirGuard (x d : String) : Prog :=
  .block (.block (seqs [(.subOn x (.var "entry") [] [] v_EntryDetail_CreditOrDebit),
    (.ite (.ne (.var x) (.str d)) (.ret (.mkErr "TransactionCode")) .skip)]))

/-- the `switch` on the header's service class code -/
def classSwitch : Prog :=
  .block (seqs [(.bind "_tag" (.sel (.fld "Header") "ServiceClassCode")),
    (.ite (.eq (.var "_tag") (.int 280)) (.block (.ret (.mkErr "ServiceClassCode")))
      (.ite (.eq (.var "_tag") (.int 200)) (.block (.ret .nil))
        (.ite (.eq (.var "_tag") (.int 220)) (dirGuard "_t2" "C")
          (.ite (.eq (.var "_tag") (.int 225)) (dirGuard "_t1" "D") .skip))))])

def svcProg : Prog :=
  seqs [advGuard, (.ite (.flag "recv" "CheckTransactionCode") (.ret .nil) .skip), classSwitch, (.ret .nil)]

theorem validTranCode_shape : v_Batch_ValidTranCodeForServiceClassCode = svcProg := rfl

theorem advGuard_exec {c : Ctx} {ep : String} {t : Int} (ht : lookup c.fields (joinPath ep "TransactionCode") = .int t) :
    exec advGuard c [("entry", .ref ep)] =
      ([("entry", .ref ep)], if t ∈ advCodes then .ret (.err (some "TransactionCode")) else .next) := by
  have hor := Ach.Props.AcceptedAmounts.orEq_eval c [("_tag", .int t), ("entry", .ref ep)] t (by simp [lookup]) advCodes
    (by decide)
  by_cases hadv : t ∈ advCodes <;> simp [advGuard, seqs, exec, eval, lookup, ht, hor, hadv, scopeExit]

theorem dirGuard_exec {c : Ctx} {l : Locals} {ep : String} {cd : Str} (x d : String) (hl : lookup l "entry" = .ref ep)
    (hcd : (exec v_EntryDetail_CreditOrDebit { c with recv := ep } []).2 = .ret (.str cd)) :
    exec (dirGuard x d) c l = (l, if cd = d.toList then .next else .ret (.err (some "TransactionCode"))) := by
  by_cases h : cd = d.toList <;>
    simp [dirGuard, seqs, exec, eval, hl, hcd, subResult, lookup, cmpVals, scopeExit, h]

theorem classSwitch_sig {c : Ctx} {ep hp : String} {s : Int} {cd : Str}
    (hH : lookup c.fields (joinPath c.recv "Header") = .ref hp)
    (hs : lookup c.fields (joinPath hp "ServiceClassCode") = .int s)
    (hcd : (exec v_EntryDetail_CreditOrDebit { c with recv := ep } []).2 = .ret (.str cd)) :
    (exec classSwitch c [("entry", .ref ep)]).2 =
      if s = 280 then .ret (.err (some "ServiceClassCode")) else if s = 200 then .ret (.err none)
      else if s = 220 then (if cd = ['C'] then .next else .ret (.err (some "TransactionCode")))
      else if s = 225 then (if cd = ['D'] then .next else .ret (.err (some "TransactionCode"))) else .next := by
  have e1 : exec (.bind "_tag" (.sel (.fld "Header") "ServiceClassCode")) c [("entry", .ref ep)] =
      ([("_tag", .int s), ("entry", .ref ep)], .next) := by simp [exec, eval, hH, hs]
  have hg := fun x d => dirGuard_exec (l := [("_tag", .int s), ("entry", .ref ep)]) x d (by simp [lookup]) hcd
  simp only [classSwitch, seqs]
  rw [exec_block_sig, exec_seq_next e1]
  simp only [exec_case_sig (show lookup [("_tag", .int s), ("entry", .ref ep)] "_tag" = .int s by simp [lookup]), hg]
  simp [exec, eval]

theorem validTranCode_nil_iff {c : Ctx} {ep hp : String} {t s : Int} {cd : Str}
    (hflag : hasFlag c "recv" "CheckTransactionCode" = false)
    (ht : lookup c.fields (joinPath ep "TransactionCode") = .int t)
    (hH : lookup c.fields (joinPath c.recv "Header") = .ref hp)
    (hs : lookup c.fields (joinPath hp "ServiceClassCode") = .int s)
    (hcd : (exec v_EntryDetail_CreditOrDebit { c with recv := ep } []).2 = .ret (.str cd)) :
    (exec v_Batch_ValidTranCodeForServiceClassCode c [("entry", .ref ep)]).2 = .ret (.err none) ↔
      t ∉ advCodes ∧ s ≠ 280 ∧ (s = 220 → cd = ['C']) ∧ (s = 225 → cd = ['D']) := by
  have e2 : exec (.ite (.flag "recv" "CheckTransactionCode") (.ret .nil) .skip) c [("entry", .ref ep)] =
      ([("entry", .ref ep)], .next) := by simp [exec, eval, hflag, scopeExit]
  rw [validTranCode_shape]
  simp only [svcProg, seqs]
  by_cases hadv : t ∈ advCodes
  · have e1 : (exec advGuard c [("entry", .ref ep)]).2 = .ret (.err (some "TransactionCode")) := by
      rw [advGuard_exec ht, if_pos hadv]
    rw [exec_seq_ret e1]
    simp [hadv]
  · have e1 : exec advGuard c [("entry", .ref ep)] = ([("entry", .ref ep)], .next) := by
      rw [advGuard_exec ht, if_neg hadv]
    rw [exec_seq_next e1, exec_seq_next e2, seq_ret_nil_iff, classSwitch_sig hH hs hcd]
    grind

/-- `ValidTranCodeForServiceClassCode` returns nil (no `CheckTransactionCode` callback) only if the entry's direction —
as `EntryDetail.CreditOrDebit()` gives it — fits a credits-only (220) or debits-only (225) header, and the header is not
an ADV one (280) -/
theorem validTranCode_accepts (c : Ctx) (ep hp : String) (t s : Int) (cd : Str)
    (hflag : hasFlag c "recv" "CheckTransactionCode" = false)
    (ht : lookup c.fields (joinPath ep "TransactionCode") = .int t)
    (hH : lookup c.fields (joinPath c.recv "Header") = .ref hp)
    (hs : lookup c.fields (joinPath hp "ServiceClassCode") = .int s)
    (hcd : (exec v_EntryDetail_CreditOrDebit { c with recv := ep } []).2 = .ret (.str cd))
    (h : (exec v_Batch_ValidTranCodeForServiceClassCode c [("entry", .ref ep)]).2 = .ret (.err none)) :
    s ≠ 280 ∧ (s = 220 → cd = ['C']) ∧ (s = 225 → cd = ['D']) :=
  ((validTranCode_nil_iff hflag ht hH hs hcd).mp h).2

/-- `EntryDetail.CreditOrDebit()` on a two-digit transaction code: by the second digit -/
def creditOrDebitOf (t : Int) : Str :=
  let d := t % 10
  if 1 ≤ d ∧ d ≤ 4 then ['C'] else if 5 ≤ d then ['D'] else []

def twoDigit : List Int := (List.range 90).map (fun k => Int.ofNat k + 10)

def codCtx (t : Int) : Ctx := { fields := [("TransactionCode", .int t)], recvFlags := [], paramFlags := [], ext := [] }

/-- the translated `EntryDetail.CreditOrDebit` on every two-digit code (evaluated on all ninety) -/
theorem creditOrDebit_table :
    twoDigit.all (fun t => (exec v_EntryDetail_CreditOrDebit (codCtx t) []).2 == .ret (.str (creditOrDebitOf t))) = true := by
  decide +kernel

theorem mem_twoDigit (t : Int) (h10 : 10 ≤ t) (h99 : t ≤ 99) : t ∈ twoDigit :=
  List.mem_map.mpr ⟨(t - 10).toNat, List.mem_range.mpr (by omega), by simp only [Int.ofNat_eq_natCast]; omega⟩

/-- the function reads nothing of its receiver but the transaction code: on two entries with the same code it does the
same (both sides unfold to the same term) -/
theorem creditOrDebit_reads_code (c c' : Ctx) (t : Int)
    (ht : lookup c.fields (joinPath c.recv "TransactionCode") = .int t)
    (ht' : lookup c'.fields (joinPath c'.recv "TransactionCode") = .int t) :
    exec v_EntryDetail_CreditOrDebit c [] = exec v_EntryDetail_CreditOrDebit c' [] := by
  have hitoa : ∀ ext, builtin1 ext "strconv.Itoa" (.int t) = .str (itoa t) := fun _ => by simp [builtin1]
  simp only [v_EntryDetail_CreditOrDebit, seqs, exec, eval, ht, ht', hitoa]

/-- the translated `EntryDetail.CreditOrDebit`, for every entry whose transaction code has two digits: "C" when the
second digit is 1–4, "D" when it is 5–9, "" when it is 0 -/
theorem creditOrDebit_exec (c : Ctx) (t : Int) (h10 : 10 ≤ t) (h99 : t ≤ 99)
    (ht : lookup c.fields (joinPath c.recv "TransactionCode") = .int t) :
    (exec v_EntryDetail_CreditOrDebit c []).2 = .ret (.str (creditOrDebitOf t)) := by
  rw [creditOrDebit_reads_code c (codCtx t) t ht (by simp [codCtx, lookup, joinPath])]
  simpa using List.all_eq_true.mp creditOrDebit_table t (mem_twoDigit t h10 h99)

/-- C03, service class — for the 20 classes above and every batch value of any size: if `BatchXXX.Validate()` (translated
from the source on this run) returns nil, no `CheckTransactionCode` callback is set and the transaction codes have two
digits, then for **every** entry: in a credits-only (220) batch the second digit of its code is 1–4 (a credit), in a
debits-only (225) batch it is 5–9 (a debit), and the header's class is not 280 -/
theorem accepted_batch_service_class (name : String) (P : Prog) (hm : (name, P) ∈ dispatchTable)
    (hshaped : name ∈ shapedClasses) (c : Ctx) (hp p : String) (n : Nat) (tc : Nat → Int) (s : Int)
    (hflag : hasFlag c "recv" "CheckTransactionCode" = false)
    (hH : lookup c.fields (joinPath c.recv "Header") = .ref hp)
    (hs : lookup c.fields (joinPath hp "ServiceClassCode") = .int s)
    (hE : lookup c.fields (joinPath c.recv "Entries") = .lst p n)
    (ht : ∀ i, i < n → lookup c.fields (joinPath (elemPath p i) "TransactionCode") = .int (tc i))
    (h2 : ∀ i, i < n → 10 ≤ tc i ∧ tc i ≤ 99)
    (ha : run c P = .accept) :
    ∀ i, i < n → s ≠ 280 ∧ (s = 220 → creditOrDebitOf (tc i) = ['C']) ∧ (s = 225 → creditOrDebitOf (tc i) = ['D']) := by
  intro i hi
  have hcall := svc_checked P (shaped_validator hm hshaped) c p n hE (run_accept.mp ha) i hi
  have hcd := creditOrDebit_exec { c with recv := elemPath p i } (tc i) (h2 i hi).1 (h2 i hi).2 (ht i hi)
  exact validTranCode_accepts c (elemPath p i) hp (tc i) s _ hflag (ht i hi) hH hs hcd hcall

/-- the two notions of direction in the validation code agree: every code `calculateBatchAmounts` adds to the credit total
is a credit by `EntryDetail.CreditOrDebit` (second digit 1–4), every code it adds to the debit total a debit, and both
lists hold two-digit codes only (C03; also the classification C11 and C13 rest on); the per-entry consequence is
`credit_entry_debit_part_zero` -/
theorem creditOrDebit_agrees_with_amount_lists :
    Ach.Props.AcceptedAmounts.creditCodes.all (fun t => creditOrDebitOf t == ['C']) = true ∧
    Ach.Props.AcceptedAmounts.debitCodes.all (fun t => creditOrDebitOf t == ['D']) = true ∧
    (Ach.Props.AcceptedAmounts.creditCodes ++ Ach.Props.AcceptedAmounts.debitCodes).all (fun t => twoDigit.contains t) = true := by
  decide +kernel

/-- hence in an accepted credits-only batch no entry counts towards the debit total -/
theorem credit_entry_debit_part_zero (t a : Int) (h : creditOrDebitOf t = ['C']) :
    Ach.Props.AcceptedAmounts.debitPart t a = 0 := by
  unfold Ach.Props.AcceptedAmounts.debitPart
  by_cases hd : t ∈ Ach.Props.AcceptedAmounts.debitCodes
  · have := List.all_eq_true.mp creditOrDebit_agrees_with_amount_lists.2.1 t hd
    simp [h] at this
  · simp [hd]

theorem credit_entry_has_no_debit_part (t a : Int) (h : creditOrDebitOf t = ['C']) :
    Ach.Props.AcceptedAmounts.debitPart t a = 0 ∨ Ach.Props.AcceptedAmounts.creditCodes.contains t = true :=
  Or.inl (credit_entry_debit_part_zero t a h)

end Ach.Props.AcceptedServiceClass
