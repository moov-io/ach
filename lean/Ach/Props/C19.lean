import Ach.Proofs.Pool
import Ach.Generated.Sites
/-!
# C19 — Concurrent work on distinct files never interferes  *(partial)*

Independent library calls share exactly this mutable state: the `sync.Pool` of `*bytes.Buffer` in perf.go, the
package-level tables (`spaceZeros`, `stringZeros`, `changeCodeDict`, `returnCodeDict`, …) and, in the server, the
repository map.  What is proved here, for **every** number of goroutines, every program and every interleaving:

* `pool_invariant` — a pooled buffer is empty and nobody holds it; no buffer is held twice;
* `pool_noninterference` (+ `_render`; `seqOutputs_parse` for what a `Parse` activation outputs alone) — each
  goroutine's outputs are those of the same code run alone;
* `pool_progress` — while a goroutine has work left some step is possible (`Pool.thread_progress`: one of its own, Get
  falls through to New, so it is never blocked by the others);
* `pool_discipline_from_source` — the hypothesis of the two theorems, read off the generated `poolUsers` table;
* `globals_written_only_at_init` — read off the generated write census (`libGlobalWrites`, `serverGlobalWrites`,
  `…GlobalMethodCalls`): no function of package `ach` or `server` other than `init` assigns to a package-level variable,
  deletes from / clears one, takes its address or passes a package-level map, slice or pointer to a callee; the only
  method calls on package-level variables are the pool's `Get`/`Put` (inside `getBuffer`/`saveBuffer`, the model above),
  `regexp.MatchString` (documented safe for concurrent use) and, in the server, the Prometheus counters and an error's
  `Error()`.  So the tables (`returnCodeDict`, `changeCodeDict`, …) one file's validation reads are never written by
  another's: a result cannot depend on which other files were processed before or meanwhile;
* `pool_violation_counterexample` — without the discipline a *disciplined* goroutine's output is corrupted;
* `repo_distinct_keys_commute` — repository requests on different file IDs commute (responses and final store).

**Trusted / modelled, not verified**: the `sync.Pool` contract (Get = some object Put before and not handed out since,
or `New()`; objects may be dropped; Get/Put atomic); `bytes.Buffer` (`WriteString`/`WriteRune` append, `Reset`
empties, `String()` copies into an immutable string); `defer` runs after the return value is evaluated; every
micro-op is atomic and the memory is sequentially consistent; the translation of the 49 functions into micro-op
programs (`Job.ops`, `parseOps`, nested for `Reader.Read`) — tied to the source by the counts in `poolUsers` and the
body hashes of `getBuffer`/`saveBuffer`; repository methods atomic (that is C18).

**Not exhibited**: data races as such and the Go memory model (only the `-race` runs of the oracle speak about them);
Prometheus counters;
that `LookupChangeCode`/`LookupReturnCode`/`…CodeField()` hand out pointers INTO the shared dictionaries (a caller
that writes through them would interfere with every other goroutine — nothing in package `ach` does).
-/
namespace Ach.Props.C19
open Ach.Gen Ach.Pool

/-- may a reference to the buffer be alive after its `Put`?  Only if some `getBuffer` is not paired with a
    `defer saveBuffer` (a non-deferred save, or none), or the buffer escapes the function. -/
def mayOutlivePut (u : PoolUse) : Bool := u.gets != u.deferSaves || u.escapes != 0

/-- what a fact table says about a program, and no more: a Put-with-live-reference (`putKeep`) needs a function
    whose facts allow it -/
def FromUsers (users : List PoolUse) (p : List Op) : Prop :=
  Op.putKeep ∈ p → ∃ u ∈ users, mayOutlivePut u = true

def expectedHashes : List (String × Nat) :=
  [("getBuffer", 7708224129504980250), ("saveBuffer", 3622025256836801352)]

/-- C19, discipline (F): each of the functions calling `getBuffer` has as many `defer saveBuffer(buf)` as `getBuffer()`
    and lets no buffer escape; `getBuffer`/`saveBuffer` are the bodies that were modelled (Reset, then Put). -/
theorem pool_discipline_from_source :
    (poolUsers.all fun u => !mayOutlivePut u) = true ∧ poolUsers.isEmpty = false ∧ poolHashes = expectedHashes :=
  ⟨by decide +kernel, rfl, rfl⟩

/-- C19, no shared mutable state besides the pool (F): outside `init`, no function writes a package-level variable (in
    any of the ways the census recognises), in the library or in the server; method calls on package-level variables are
    exactly the pool's, a compiled regexp's matcher, the server's metric counters and an error value's `Error`. -/
theorem globals_written_only_at_init :
    libGlobalWrites = [] ∧ serverGlobalWrites = [] ∧
    libGlobalMethodCalls = [("byteBufferPool", "getBuffer", "Get"), ("byteBufferPool", "saveBuffer", "Put"),
      ("hhmmRegex", "validator.validateSimpleTime", "MatchString")] ∧
    serverGlobalMethodCalls = [("errInvalidFile", "codeFrom", "Error"), ("filesCreated", "createFileEndpoint", "With"),
      ("filesDeleted", "deleteFileEndpoint", "Add")] ∧
    (["returnCodeDict", "changeCodeDict"].all fun v => libGlobalVars.any fun g => g.1 == v) = true :=
  ⟨rfl, rfl, rfl, rfl, by decide +kernel⟩

theorem disciplined_of_source {p : List Op} (h : FromUsers poolUsers p) : Disciplined p := by
  intro hk
  obtain ⟨u, hu, hm⟩ := h hk
  have := List.all_eq_true.1 pool_discipline_from_source.1 u hu
  simp [hm] at this

def Holds (s : State) (t : Nat) (b : BufId) : Prop := ∃ th, s.threads[t]? = some th ∧ b ∈ th.held

/-- C19, pool clause 1: in every state reachable by any interleaving, a pooled buffer is empty and held by nobody, a
    buffer is held by at most one goroutine, and at most once (each buffer is thus in the pool, or held by exactly
    one goroutine, or garbage: dropped by the pool). -/
theorem pool_invariant {progs : List (List Op)} (hsrc : ∀ p ∈ progs, FromUsers poolUsers p)
    {ls : List Label} {s : State} (hr : Run (init progs) ls s) :
    s.pool.Nodup ∧
    (∀ b ∈ s.pool, s.heap b = [] ∧ ∀ t, ¬ Holds s t b) ∧
    (∀ b t u, Holds s t b → Holds s u b → t = u) ∧
    (∀ (t : Nat) (th : Thread), s.threads[t]? = some th → th.held.Nodup) := by
  have hi := inv_run (inv_init fun p hp => disciplined_of_source (hsrc p hp)) hr
  refine ⟨hi.poolNodup, fun b hb => ⟨hi.poolEmpty b hb, ?_⟩, ?_, hi.heldNodup⟩
  · rintro t ⟨th, ht, hm⟩; exact hi.heldNotPool t th ht b hm hb
  · rintro b t u ⟨th, ht, hm⟩ ⟨th', hu, hm'⟩
    exact Decidable.byContradiction fun hne => hi.heldDisjoint t u th th' ht hu hne b hm hm'

/-- C19, pool clause 2: N goroutines, arbitrary disciplined programs, arbitrary interleaving (including the pool
    dropping objects): at every moment goroutine `t` has produced a prefix of what its program produces when run
    alone, and exactly that once it is done — whatever the other goroutines do. -/
theorem pool_noninterference {progs : List (List Op)} (hsrc : ∀ p ∈ progs, FromUsers poolUsers p)
    {ls : List Label} {s : State} (hr : Run (init progs) ls s) {t : Nat} {th : Thread}
    (ht : s.threads[t]? = some th) :
    ∃ p, progs[t]? = some p ∧ (∃ e, seqOutputs p = th.outs ++ e) ∧ (th.prog = [] → th.outs = seqOutputs p) :=
  noninterference (fun p hp => disciplined_of_source (hsrc p hp)) hr ht

/-- … for goroutines each rendering a list of records (`String()` methods): the outputs of a finished goroutine are
    `renderSeq job = concat chunks`, job by job, in order. -/
theorem pool_noninterference_render {jobs : List (List Job)} {ls : List Label} {s : State}
    (hr : Run (init (jobs.map fun js => js.flatMap Job.ops)) ls s) {t : Nat} {th : Thread}
    (ht : s.threads[t]? = some th) (hdone : th.prog = []) :
    ∃ js, jobs[t]? = some js ∧ th.outs = js.map renderSeq := by
  have hd : ∀ p ∈ jobs.map (fun js => js.flatMap Job.ops), Disciplined p := by
    intro p hp
    obtain ⟨js, _, rfl⟩ := List.mem_map.1 hp
    simp [Disciplined, Job.ops]
  obtain ⟨p, hp, _, h⟩ := noninterference hd hr ht
  obtain ⟨js, hj, rfl⟩ := Option.map_eq_some_iff.1 (List.getElem?_map ▸ hp)
  exact ⟨js, hj, by rw [h hdone, seqOutputs, seqRun_jobs]; rfl⟩

/-- the reference outputs of a `Parse` activation: one string per field, the concatenation of its runes -/
theorem seqOutputs_parse (fields : List (List Bytes)) : seqOutputs (parseOps fields) = fields.map List.flatten := by
  rw [seqOutputs, seqRun_parse]; rfl

/-- C19, liveness side: while a goroutine has work left some step is possible, whatever the state of the pool
    (`Pool.thread_progress`: a step of that goroutine). -/
theorem pool_progress (s : State) {t : Nat} {th : Thread} (ht : s.threads[t]? = some th) (hp : th.prog ≠ []) :
    ∃ l s', Step s l s' := progress s ht hp

/-- the executable transition function used for the examples below is the relation the theorems are about -/
theorem next_is_step {s s' : State} {l : Label} : next? s l = some s' ↔ Step s l s' := ⟨next?_sound, next?_complete⟩

/-! Non-vacuity: a run in which a buffer really is recycled between goroutines. -/

def jobA : Job := ⟨[[65, 65], [65]]⟩
def jobB : Job := ⟨[[66, 66, 66, 66]]⟩
/-- g0 renders A then B; g1 renders B; g1 takes over the buffer g0 has just put back, g0 then gets a new one -/
def sched : List Label :=
  [.getNew 0, .run 0, .run 0, .run 0, .run 0, .getPooled 1 0, .getNew 0, .run 1, .run 0, .run 1, .run 0, .run 1, .run 0]

example : observe [jobA.ops ++ jobB.ops, jobB.ops] sched 0 = some ([], [[65, 65, 65], [66, 66, 66, 66]]) ∧
    observe [jobA.ops ++ jobB.ops, jobB.ops] sched 1 = some ([], [[66, 66, 66, 66]]) := by decide +kernel

example : ∀ p ∈ [jobA.ops ++ jobB.ops, jobB.ops, parseOps [[[49], [50]], [[51]]]], FromUsers poolUsers p := by
  unfold FromUsers; decide +kernel

/-- `Reader.Read` shape: the line buffer is held while `Parse` gets, uses and puts back a second one (nesting);
    here g1 runs it while g0 renders, g1's inner Get recycling g0's buffer -/
def readOps : List Op := [.get, .write [54, 50]] ++ [.emit] ++ parseOps [[[54]], [[50]]] ++ [.reset, .put]

example : seqOutputs readOps = [[54, 50], [54], [50]] ∧
    observe [jobA.ops, readOps] ([.getNew 1, .run 1, .getNew 0, .run 0, .run 0, .run 0, .run 0, .run 1,
      .getPooled 1 1] ++ List.replicate 9 (.run 1)) 1 = some ([], [[54, 50], [54], [50]]) := by decide +kernel

/-- a goroutine that saves its buffer and then goes on writing to it -/
def bad : List Op := [.get, .putKeep, .write [65, 65, 65, 65], .emit]
def victim : Job := ⟨[[66, 66]]⟩

/-- C19, necessity of the discipline: with ONE goroutine that Puts its buffer back while still using it, a second,
    disciplined goroutine rendering "BB" returns "BBAAAA".  (Not a defect of the code: `pool_discipline_from_source`
    shows no function does this.) -/
theorem pool_violation_counterexample :
    Disciplined victim.ops ∧ seqOutputs victim.ops = [[66, 66]] ∧
    ∃ ls s th, Run (init [bad, victim.ops]) ls s ∧ s.threads[1]? = some th ∧ th.prog = [] ∧
      th.outs = [[66, 66, 65, 65, 65, 65]] :=
  ⟨by decide +kernel, by decide +kernel, [.getNew 0, .run 0, .getPooled 1 0, .run 1, .run 0, .run 1, .run 1, .run 0],
    observe_sound (by decide +kernel)⟩

/-- C19, repository clause: two requests (store / find / delete / a batch-level change inside one file) addressed to
    different IDs give the same two responses and observationally the same store in either order. -/
theorem repo_distinct_keys_commute {V R : Type} (m : Store V) (a b : ROp V R) (hk : a.key ≠ b.key) :
    (repoStep m a).2 = (repoStep (repoStep m b).1 a).2 ∧
    (repoStep (repoStep m a).1 b).2 = (repoStep m b).2 ∧
    Store.Equiv (repoStep (repoStep m a).1 b).1 (repoStep (repoStep m b).1 a).1 := by
  have ha := repoStep_local a (repoStep_find_other m b hk.symm).symm
  have hb := repoStep_local b (repoStep_find_other m a hk)
  refine ⟨ha.1, hb.1, fun k => ?_⟩
  by_cases ka : a.key = k
  · rw [← ka, repoStep_find_other _ b hk.symm]; exact ha.2
  · rw [repoStep_find_other _ a ka]
    by_cases kb : b.key = k
    · rw [← kb]; exact hb.2
    · rw [repoStep_find_other _ b kb, repoStep_find_other _ b kb, repoStep_find_other _ a ka]

/-- … and "observationally the same" is all a later request can see -/
theorem repo_equiv_congr {V R : Type} {m m' : Store V} (h : Store.Equiv m m') (a : ROp V R) :
    (repoStep m a).2 = (repoStep m' a).2 ∧ Store.Equiv (repoStep m a).1 (repoStep m' a).1 := by
  refine ⟨(repoStep_local a (h _)).1, fun k => ?_⟩
  by_cases hk : a.key = k
  · exact hk ▸ (repoStep_local a (h _)).2
  · rw [repoStep_find_other m a hk, repoStep_find_other m' a hk, h k]

/-- the two orders give different lists (hence `Store.Equiv`, not `=`), and the hypothesis is satisfiable -/
example : let a : ROp Nat Unit := .store "f1" 1; let b : ROp Nat Unit := .store "f2" 2
    a.key ≠ b.key ∧ (repoStep (repoStep [] a).1 b).1 ≠ (repoStep (repoStep [] b).1 a).1 := by decide +kernel

end Ach.Props.C19
