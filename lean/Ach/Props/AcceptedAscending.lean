import Ach.Props.Accepted
/-!
# Trace numbers of an accepted batch strictly ascend (C03)

`Batch.isSequenceAscending` carries the previous trace number through its loop.  Its translation is shown to be — today —
the program `ascProg`; a loop that fell through made every turn fall through, each turn from the trace number the turn
before it left in `lastSeq`.
-/

namespace Ach.Props.AcceptedAscending
open Ach Ach.GoLite Ach.Gen

def ascBody : Prog :=
  seqs [(.ite (.not (.flag "recv" "CustomTraceNumbers"))
      (.ite (.le (.sel (.var "entry") "TraceNumber") (.var "lastSeq")) (.ret (.mkErr "TraceNumber")) .skip)
      .skip),
    (.assign "lastSeq" (.sel (.var "entry") "TraceNumber"))]

def ascProg : Prog :=
  seqs [(.block (seqs [(.sub "_t1" [] [] v_Batch_IsADV),
      (.ite (.not (.var "_t1"))
        (seqs [(.bind "lastSeq" (.str "0")), (.forEach "entry" (.fld "Entries") ascBody)])
        .skip)])),
    (.ret .nil)]

theorem isSequenceAscending_shape : v_Batch_isSequenceAscending = ascProg := rfl

/-- Go's string order on the trace numbers: each one greater than the one before, the first greater than `x` ("0" in
`Batch.isSequenceAscending`, "-1" in `IATBatch.isSequenceAscending`) -/
def ascending (tr : Nat → Str) : Str → List Nat → Prop
  | _, [] => True
  | x, i :: is => strLt x (tr i) = true ∧ ascending tr (tr i) is

theorem ascBody_next (c : Ctx) (hflag : hasFlag c "recv" "CustomTraceNumbers" = false) {x : Str} {ep : String} {t : Str}
    {rest : Locals}
    (ht : lookup c.fields (joinPath ep "TraceNumber") = .str t)
    (h : (exec ascBody c (("entry", .ref ep) :: ("lastSeq", .str x) :: rest)).2 = .next) :
    strLt x t = true ∧
      scopeExit (("lastSeq", Val.str x) :: rest) (exec ascBody c (("entry", .ref ep) :: ("lastSeq", .str x) :: rest)).1 =
        ("lastSeq", .str t) :: rest := by
  by_cases hlt : strLt x t = true
  · simp [ascBody, seqs, exec, eval, lookup, ht, hflag, cmpVals, hlt, update, scopeExit] at h ⊢
  · simp [ascBody, seqs, exec, eval, lookup, ht, hflag, cmpVals, hlt, scopeExit] at h

theorem asc_iter (c : Ctx) (hflag : hasFlag c "recv" "CustomTraceNumbers" = false) (p : String) (n : Nat) (tr : Nat → Str)
    (rest : Locals)
    (htr : ∀ i, i < n → lookup c.fields (joinPath (elemPath p i) "TraceNumber") = .str (tr i)) :
    ∀ is : List Nat, (∀ i ∈ is, i < n) → ∀ x : Str,
      (iter (fun l' => exec ascBody c l') (fun i => .ref (elemPath p i)) "entry" is (("lastSeq", .str x) :: rest)).2 = .next →
      ascending tr x is := by
  intro is
  induction is with
  | nil => intro _ _ _; trivial
  | cons j is ih =>
      intro hlt x h
      obtain ⟨hj, hrest⟩ := iter_cons_next (noExit_sig ascBody (by decide) c _) h
      obtain ⟨hpj, hsc⟩ := ascBody_next c hflag (htr j (hlt j (List.mem_cons_self ..))) hj
      rw [hsc] at hrest
      exact ⟨hpj, ih (fun k hk => hlt k (List.mem_cons_of_mem _ hk)) (tr j) hrest⟩

/-- C03 — `Batch.isSequenceAscending()` returns nil (standard batch, `CustomTraceNumbers` off) only if the trace numbers
strictly ascend in Go's string order, the first one above "0", for batches of any size -/
theorem isSequenceAscending_accepts (c : Ctx) (hp p : String) (n : Nat) (tr : Nat → Str) (sec : Str)
    (hflag : hasFlag c "recv" "CustomTraceNumbers" = false)
    (hH : lookup c.fields (joinPath c.recv "Header") = .ref hp)
    (hsec : lookup c.fields (joinPath hp "StandardEntryClassCode") = .str sec) (hnadv : sec ≠ ['A', 'D', 'V'])
    (hE : lookup c.fields (joinPath c.recv "Entries") = .lst p n)
    (htr : ∀ i, i < n → lookup c.fields (joinPath (elemPath p i) "TraceNumber") = .str (tr i))
    (h : (exec v_Batch_isSequenceAscending c []).2 = .ret (.err none)) :
    ascending tr ['0'] (List.range n) := by
  simp only [isSequenceAscending_shape, ascProg, seqs] at h
  have hloop := accept_seq_left (by decide) h
  have e1 : exec (.bind "lastSeq" (.str "0")) c [("_t1", .bool false)] =
      ([("lastSeq", .str ['0']), ("_t1", .bool false)], .next) := by
    simp [exec, eval]
  rw [exec_callSwitch_sig (Accepted.batch_isADV_false c hp sec hH hsec hnadv), cond_false, exec_seq_next e1] at hloop
  simp only [exec, eval, hE] at hloop
  exact asc_iter c hflag p n tr _ htr _ (fun k hk => List.mem_range.mp hk) _ hloop

/-- C03, trace numbers strictly ascend — for every standard (non-ADV) batch value, of any size: if `Batch.verify()`
(translated from the source on this run) returns nil and `CustomTraceNumbers` is off, each entry's trace number is greater
(Go string order) than the one before it -/
theorem accepted_batch_traces_ascend (c : Ctx) (hp p : String) (n : Nat) (tr : Nat → Str) (sec : Str)
    (hflag : hasFlag c "recv" "CustomTraceNumbers" = false)
    (hH : lookup c.fields (joinPath c.recv "Header") = .ref hp)
    (hsec : lookup c.fields (joinPath hp "StandardEntryClassCode") = .str sec) (hnadv : sec ≠ ['A', 'D', 'V'])
    (hE : lookup c.fields (joinPath c.recv "Entries") = .lst p n)
    (htr : ∀ i, i < n → lookup c.fields (joinPath (elemPath p i) "TraceNumber") = .str (tr i))
    (ha : run c v_Batch_verify = .accept) :
    ascending tr ['0'] (List.range n) := by
  obtain ⟨pre, h⟩ := run_passes_nth Accepted.verify_statements ha (k := 4)
    (q := .ite (.not (.flag "recv" "CustomTraceNumbers")) (.check none v_Batch_isSequenceAscending) .skip) rfl (by decide)
  exact isSequenceAscending_accepts c hp p n tr sec hflag hH hsec hnadv hE htr
    (check_passes c pre none _ (unless_flag_next hflag h))

example (tr : Nat → Str) (h : ascending tr ['0'] (List.range 3)) :
    strLt ['0'] (tr 0) = true ∧ strLt (tr 0) (tr 1) = true ∧ strLt (tr 1) (tr 2) = true := by
  simpa [List.range, List.range.loop, ascending] using h

end Ach.Props.AcceptedAscending
