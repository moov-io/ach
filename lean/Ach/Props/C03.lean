import Ach.Model.Validate
import Ach.Generated.Topics
/-!
# C03 — files that pass validation satisfy the NACHA control arithmetic

* `check_digit_spec` — the accepted check digit is the unique digit that makes the 3-7-1 weighted sum a multiple of 10;
* `classification_consistent` — the credit/debit code lists used for totals, for segmenting and for IAT/ADV agree with
  each other and with `CreditOrDebit`, and partition the standard codes (generated tables, kernel evaluation);
* `validate_sound_batch`, `validate_sound_file_partial` — acceptance by the model of `Batch.verify` / `File.ValidateWith`
  implies every clause the property lists.  The model may accept more than the code (opaque conjuncts only reject more);
  the correspondence stream checks `implementation accepts ⇒ model accepts`, and for batches stored in a context it is
  a theorem (`C03ModelAccept.code_accept_implies_model_accept`, `C03IATModelAccept`).
* `hash_is_sum_mod` — the entry hash is the sum of the routing prefixes modulo 10^10, also when the sum needs more digits.

`validate_sound_file_partial` is *partial*: `File.ValidateWith` never validates IAT batches nor the batches of ADV
files (known finding D6), so for those the property holds only for files that came through the Reader (which
validates each batch at its control record).
-/
namespace Ach.Props.C03
open Ach.Gen

theorem roundUp10_eq (n : Nat) : roundUp10 n = n + (10 - n % 10) % 10 := by
  unfold roundUp10; omega

theorem roundUp10_sub (n : Nat) : (roundUp10 n : Int) - n = ((10 - n % 10) % 10 : Nat) := by
  rw [roundUp10_eq, Int.natCast_add, Int.add_comm, Int.add_sub_cancel]

/-- **check_digit_spec**: for every weighted sum `n`, `d = roundUp10 n - n` is a digit, `n + d ≡ 0 (mod 10)`,
and no other digit has that property -/
theorem check_digit_spec (n : Nat) :
    let d := roundUp10 n - n
    d ≤ 9 ∧ (n + d) % 10 = 0 ∧ ∀ d' : Nat, d' ≤ 9 → (n + d') % 10 = 0 → d' = d := by
  rw [roundUp10_eq, Nat.add_sub_cancel_left]
  exact ⟨Nat.le_of_lt_succ (Nat.mod_lt _ (by decide)), by omega, fun d' h1 h2 => by omega⟩

/-- the model's `calculateCheckDigit` on an 8-digit string is that digit -/
theorem calculateCheckDigit_digits (s : Str) (hl : s.length = 8) (hd : s.all isDigit = true) :
    calculateCheckDigit s = ((roundUp10 (weightedSum (s.map digitVal)) - weightedSum (s.map digitVal) : Nat) : Int) := by
  have h8 : s.take 8 = s := List.take_of_length_le (Nat.le_of_eq hl)
  -- the right side as the difference of integers the model computes: nothing is truncated, since `roundUp10 n ≥ n`
  rw [roundUp10_eq, Nat.add_sub_cancel_left, ← roundUp10_sub]
  simp [calculateCheckDigit, hl, h8, hd]

/-- **classification_consistent** (F, on the generated tables): the four copies of the credit and debit lists (batch, segment, IAT, segment-IAT) agree, and so do the two ADV copies;
they are disjoint, together they are exactly the standard two-digit codes, and they agree with `CreditOrDebit`. -/
theorem classification_consistent :
    creditCodes = segCreditCodes ∧ debitCodes = segDebitCodes ∧
    creditCodes = iatCreditCodes ∧ debitCodes = iatDebitCodes ∧
    creditCodes = segIatCreditCodes ∧ debitCodes = segIatDebitCodes ∧
    advCreditCodes = segAdvCreditCodes ∧ advDebitCodes = segAdvDebitCodes ∧
    (∀ c ∈ creditCodes, creditOrDebit c = .credit ∧ !debitCodes.contains c) ∧
    (∀ c ∈ debitCodes, creditOrDebit c = .debit) ∧
    (∀ c ∈ standardEntryCodes, creditCodes.contains c || debitCodes.contains c) ∧
    (∀ c ∈ creditCodes ++ debitCodes, standardEntryCodes.contains c) ∧
    (∀ c ∈ advCreditCodes ++ advDebitCodes, standardCodes.contains c && !(standardEntryCodes.contains c)) := by
  decide +kernel

/-- for all codes 0–99: what `classOK` admits under `CreditsOnly` is a credit for `creditOrDebit`, what it
admits under `DebitsOnly` a debit (not conversely: 81 is a credit for `creditOrDebit` and an ADV code for `classOK`) -/
theorem service_class_direction :
    ∀ c ∈ List.range 100, ∀ sc ∈ [K.CreditsOnly, K.DebitsOnly],
      classOK sc ⟨c, [], [], 0, [], 0, true⟩ = true →
        (sc = K.CreditsOnly → creditOrDebit c = .credit) ∧ (sc = K.DebitsOnly → creditOrDebit c = .debit) := by
  decide +kernel

theorem and_true_split {a b : Bool} (h : (a && b) = true) : a = true ∧ b = true := by simpa using h

/-- the check-digit clause shared by `entryOK` and `iatEntryOK` -/
private theorem checkDigit_clause {x : Option Int} {c : Int}
    (h : (match x with | some d => decide (c = d) | none => false) = true) : ∃ d, x = some d ∧ c = d := by
  cases x with
  | none => exact absurd h Bool.false_ne_true
  | some d => exact ⟨d, rfl, of_decide_eq_true h⟩

/-- **validate_sound_batch**: a standard batch accepted under default options satisfies every clause of the property -/
theorem validate_sound_batch (b : VBatch) (h : batchValidate {} b = true) :
    entryCount b.entries = b.control.entryAddendaCount ∧
    batchHash b.entries = b.control.entryHash ∧
    debitTotal b.entries = b.control.totalDebit ∧ creditTotal b.entries = b.control.totalCredit ∧
    b.header.serviceClass = b.control.serviceClass ∧ b.header.odfi = b.control.odfi ∧
    b.header.batchNumber = b.control.batchNumber ∧
    tracesAscend ['0'] b.entries = true ∧ tracePrefixOK (stringField b.header.odfi 8) b.entries = true ∧
    (∀ e ∈ b.entries, 0 ≤ e.amount ∧ e.amount ≤ 9999999999 ∧ classOK b.header.serviceClass e = true ∧
        ∃ d, atoi e.checkDigit = some d ∧ calculateCheckDigit (stringField e.rdfi 8) = d) := by
  simp only [batchValidate, entryOK, Bool.false_or, Bool.and_eq_true, decide_eq_true_eq, List.all_eq_true] at h
  -- the pattern follows the left-nested `&&` chain of `batchValidate`, conjunct by conjunct
  obtain ⟨⟨⟨⟨⟨⟨⟨⟨⟨⟨⟨⟨⟨_, _⟩, hent⟩, hsc⟩, _⟩, hodfi⟩, hbn⟩, hcnt⟩, hasc⟩, hdeb⟩, hcred⟩, hhash⟩, hpre⟩, hcls⟩ := h
  exact ⟨hcnt, hhash, hdeb, hcred, hsc, hodfi, hbn, hasc, hpre,
    fun e he => ⟨(hent e he).1.1.2, (hent e he).1.2, hcls e he, checkDigit_clause (hent e he).2⟩⟩

/-- **validate_sound_iat_batch**: an IAT batch accepted under default options (the Reader validates every IAT batch at
its batch control record) satisfies the same clauses — count, hash, totals (IAT copy of the credit / debit lists, equal
to the standard one by `classification_consistent`), header/control agreement, trace numbers strictly ascending and
starting with the header's ODFI, every entry's check digit -/
theorem validate_sound_iat_batch (b : VBatch) (h : iatBatchValidate {} b = true) :
    entryCount b.entries = b.control.entryAddendaCount ∧
    batchHash b.entries = b.control.entryHash ∧
    iatDebitTotal b.entries = b.control.totalDebit ∧ iatCreditTotal b.entries = b.control.totalCredit ∧
    b.header.serviceClass = b.control.serviceClass ∧ b.header.odfi = b.control.odfi ∧
    b.header.batchNumber = b.control.batchNumber ∧
    tracesAscend ['-', '1'] b.entries = true ∧ iatTracePrefixOK (stringField b.header.odfi 8) b.entries = true ∧
    (∀ e ∈ b.entries, ∃ d, atoi e.checkDigit = some d ∧ calculateCheckDigit (stringField e.rdfi 8) = d) := by
  simp only [iatBatchValidate, iatEntryOK, Bool.false_or, Bool.and_eq_true, decide_eq_true_eq, List.all_eq_true] at h
  obtain ⟨⟨⟨⟨⟨⟨⟨⟨⟨⟨⟨_, _⟩, hent⟩, hsc⟩, hodfi⟩, hbn⟩, hcnt⟩, hasc⟩, hdeb⟩, hcred⟩, hhash⟩, hpre⟩ := h
  exact ⟨hcnt, hhash, hdeb, hcred, hsc, hodfi, hbn, hasc, hpre, fun e he => checkDigit_clause (hent e he).2⟩

/-- the IAT totals are the standard totals (the two copies of the code lists agree on the current source) -/
theorem iat_totals_eq_standard (es : List VEntry) : iatCreditTotal es = creditTotal es ∧ iatDebitTotal es = debitTotal es := by
  have h := classification_consistent
  unfold iatCreditTotal iatDebitTotal creditTotal debitTotal
  rw [← h.2.2.1, ← h.2.2.2.1]
  exact ⟨rfl, rfl⟩

/-- **validate_sound_file_partial**: an accepted non-ADV file has a file control equal to the sums over its batch
controls, ascending batch numbers, and every *standard* batch satisfies `validate_sound_batch`.
(IAT batches are only summed, never validated, by `File.ValidateWith`: known finding D6.) -/
theorem validate_sound_file_partial (f : VFile) (h : fileValidate {} f = true) :
    f.control.batchCount = (f.batches.length + f.iatControls.length : Nat) ∧
    f.control.entryAddendaCount = sumBy (·.entryAddendaCount) (allControls f) ∧
    f.control.totalDebit = sumBy (·.totalDebit) (allControls f) ∧
    f.control.totalCredit = sumBy (·.totalCredit) (allControls f) ∧
    f.control.entryHash = leastSignificantDigits (sumBy (·.entryHash) (allControls f)) 10 ∧
    batchNumbersAscend 0 f.batches = true ∧
    ∀ b ∈ f.batches, batchValidate {} b = true := by
  simp only [fileValidate, Bool.false_or, Bool.and_eq_true, decide_eq_true_eq, List.all_eq_true] at h
  obtain ⟨⟨⟨⟨⟨⟨⟨⟨_, hbc⟩, hb⟩, _⟩, hcnt⟩, hd⟩, hc⟩, hasc⟩, hh⟩ := h
  exact ⟨hbc, hcnt, hd, hc, hh, hasc, hb⟩

/-- non-vacuity: an IAT credit batch with foreign-looking traces starting with the ODFI is accepted -/
example : iatBatchValidate {} {
    header := ⟨220, [], "12345678".toList, 1⟩,
    entries := [⟨22, "99999999".toList, "2".toList, 100, "123456780000001".toList, 7, true⟩,
                ⟨32, "99999999".toList, "2".toList, 250, "123456780000002".toList, 8, true⟩],
    control := ⟨220, 17, 199999998, 0, 350, [], "12345678".toList, 1⟩,
    extraOK := true } = true := by decide +kernel

/-- **hash_is_sum_mod**: with non-negative routing values the batch entry hash is the sum modulo 10^10 -/
theorem hash_is_sum_mod (es : List VEntry) (h : 0 ≤ sumBy rdfiValue es) :
    batchHash es = (sumBy rdfiValue es) % 10000000000 := by
  rw [batchHash, leastSignificantDigits, if_neg (by decide), Int.tmod_eq_emod_of_nonneg h]
  rfl

/-- non-vacuity: a two-entry credit batch whose hash exceeds ten digits is accepted and meets the hypotheses -/
example : batchValidate {} {
    header := ⟨220, "1234567890".toList, "12345678".toList, 1⟩,
    entries := [⟨22, "99999999".toList, "2".toList, 100, "123456780000001".toList, 0, true⟩,
                ⟨32, "99999999".toList, "2".toList, 250, "123456780000002".toList, 0, true⟩],
    control := ⟨220, 2, 199999998, 0, 350, "1234567890".toList, "12345678".toList, 1⟩,
    extraOK := true } = true := by decide +kernel

/-- F: the functions `Ach.Model.Validate` mirrors by hand have the bodies the model was written against -/
theorem validate_functions_unchanged : hashes_validate = [("File.ValidateWith", 10445232728897984769), ("File.Validate", 17213404748645969548), ("File.isEntryAddendaCount", 12696631380225462658), ("File.isFileAmount", 3480241912098899524), ("File.isEntryHash", 13734886812924259799), ("File.calculateEntryHash", 3784837326344583080), ("File.isSequenceAscending", 15571422516586788164), ("Batch.verify", 9460724674896680126), ("Batch.isBatchEntryCount", 13106519829678733205), ("Batch.isBatchAmount", 16505843045935765689), ("Batch.calculateBatchAmounts", 11949208757700908045), ("Batch.isSequenceAscending", 8180904180479630633), ("Batch.isEntryHash", 17906983948369032829), ("Batch.calculateEntryHash", 64307238646473242), ("Batch.isTraceNumberODFI", 6050489006599716682), ("Batch.ValidTranCodeForServiceClassCode", 839994114162879679), ("EntryDetail.Validate", 11966679055281504975), ("CalculateCheckDigit", 3833185090430182084), ("roundUp10", 9984175844447061339), ("aba8", 10864741332486296470), ("EntryDetail.CreditOrDebit", 9496558388189731941)] := rfl

end Ach.Props.C03
