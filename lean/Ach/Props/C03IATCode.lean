import Ach.Props.AcceptedIAT
import Ach.Props.AcceptedIATCount
import Ach.Props.AcceptedIATTraces
import Ach.Props.AcceptedIATEntries
import Ach.Props.C03Code
/-!
# C03 for IAT batches, stated once, on the validation code translated from the source on this run

The IAT analogue of `Ach.Props.C03Code`: `IATStd c` describes an IAT batch stored in a context (where its records are and
what the fields the property speaks about hold; it also asks that the routing numbers be ASCII text, which the closed
form of the hash needs), and `c03_iat_batch` is the property's batch-level statement for it: if `IATBatch.verify()`
returned nil under the default options, every arithmetic clause holds, for batches of any size.  The clauses come from
the `AcceptedIAT*` files; the one about trace numbers is first lifted from `IATBatch.isTraceNumberODFI` to `verify`.
-/
namespace Ach.Props.C03IATCode
open Ach Ach.GoLite Ach.Gen Ach.Props.AcceptedIATTraces

/-- C03, IAT, trace numbers begin with the ODFI — for every IAT batch value of any size: if `IATBatch.verify()` (translated
from the source on this run) returns nil and neither `CustomTraceNumbers` nor `BypassOriginValidation` is on, the first
eight columns of every entry's trace number field are the header's ODFI identification -/
theorem accepted_iat_batch_traces_begin_with_odfi (c : Ctx) (hp p : String) (n : Nat) (tr : Nat → Str) (odfi : Str)
    (hf1 : hasFlag c "recv" "CustomTraceNumbers" = false)
    (hf2 : hasFlag c "recv" "BypassOriginValidation" = false)
    (hH : lookup c.fields (joinPath c.recv "Header") = .ref hp)
    (ho : lookup c.fields (joinPath hp "ODFIIdentification") = .str odfi)
    (hE : lookup c.fields (joinPath c.recv "Entries") = .lst p n)
    (htr : ∀ i, i < n → lookup c.fields (joinPath (elemPath p i) "TraceNumber") = .str (tr i))
    (ha : run c v_IATBatch_verify = .accept) :
    ∀ i, i < n → iatTracePrefix (tr i) = .str (stringField odfi 8) := by
  obtain ⟨_, hpass⟩ := run_passes_nth Ach.Props.AcceptedIAT.iat_verify_statements ha (k := 10)
    (q := .ite (.not (.flag "recv" "CustomTraceNumbers"))
      (seqs [(.check none v_IATBatch_isTraceNumberODFI), (.check none v_IATBatch_isAddendaSequence)]) .skip)
    rfl (by decide)
  exact iat_isTraceNumberODFI_accepts c hp p n tr odfi hf2 hH ho hE htr
    (check_passes c _ none _ (seq_next_left (unless_flag_next hf1 hpass)))

structure IATStd (c : Ctx) where
  hp : String
  cp : String
  p : String
  n : Nat
  hH : lookup c.fields (joinPath c.recv "Header") = .ref hp
  hC : lookup c.fields (joinPath c.recv "Control") = .ref cp
  hE : lookup c.fields (joinPath c.recv "Entries") = .lst p n
  hscc : Int
  cscc : Int
  hbn : Int
  cbn : Int
  hodfi : Str
  codfi : Str
  h1 : lookup c.fields (joinPath hp "ServiceClassCode") = .int hscc
  h2 : lookup c.fields (joinPath cp "ServiceClassCode") = .int cscc
  h5 : lookup c.fields (joinPath hp "ODFIIdentification") = .str hodfi
  h6 : lookup c.fields (joinPath cp "ODFIIdentification") = .str codfi
  h7 : lookup c.fields (joinPath hp "BatchNumber") = .int hbn
  h8 : lookup c.fields (joinPath cp "BatchNumber") = .int cbn
  count : Int
  hash : Int
  credit : Int
  debit : Int
  k1 : lookup c.fields (joinPath cp "EntryAddendaCount") = .int count
  k2 : lookup c.fields (joinPath cp "EntryHash") = .int hash
  k3 : lookup c.fields (joinPath cp "TotalCreditEntryDollarAmount") = .int credit
  k4 : lookup c.fields (joinPath cp "TotalDebitEntryDollarAmount") = .int debit
  rdfi : Nat → Str
  cd : Nat → Str
  tr : Nat → Str
  tc : Nat → Int
  am : Nat → Int
  /-- the records each entry stands for: itself, one per addenda pointer that is set, the lengths of Addenda17/18 -/
  recs : Nat → List Int
  e1 : ∀ i, i < n → lookup c.fields (joinPath (elemPath p i) "RDFIIdentification") = .str (rdfi i)
  e2 : ∀ i, i < n → lookup c.fields (joinPath (elemPath p i) "CheckDigit") = .str (cd i)
  e3 : ∀ i, i < n → lookup c.fields (joinPath (elemPath p i) "TraceNumber") = .str (tr i)
  e4 : ∀ i, i < n → lookup c.fields (joinPath (elemPath p i) "TransactionCode") = .int (tc i)
  e5 : ∀ i, i < n → lookup c.fields (joinPath (elemPath p i) "Amount") = .int (am i)
  e6 : ∀ i, i < n → Ach.Props.AcceptedIATCount.iatItems.map (Ach.Props.AcceptedIATCount.itemVal c (elemPath p i)) = (recs i).map some
  ascii : ∀ i, i < n → allAscii (rdfi i) = true

/-- C03, IAT batches, on the translated code: an accepted IAT batch (any size, default options) satisfies the control
arithmetic — count, hash, totals; header/control agreement; every entry's check digit; trace numbers that begin with the
header's ODFI and strictly ascend (from "-1", as `IATBatch.isSequenceAscending` starts) -/
theorem c03_iat_batch (c : Ctx) (B : IATStd c) (hdef : Ach.Props.C03Code.defaultOpts c)
    (ha : run c v_IATBatch_verify = .accept) :
    B.count = ((List.range B.n).map (fun i => (B.recs i).sum)).sum ∧
    B.hash = leastSignificantDigits (((List.range B.n).map (fun i => Ach.Props.AcceptedHash.rdfiNumber (B.rdfi i))).sum) 10 ∧
    B.credit = ((List.range B.n).map (fun i => Ach.Props.AcceptedAmounts.creditPart (B.tc i) (B.am i))).sum ∧
    B.debit = ((List.range B.n).map (fun i => Ach.Props.AcceptedAmounts.debitPart (B.tc i) (B.am i))).sum ∧
    B.hscc = B.cscc ∧ B.hodfi = B.codfi ∧ B.hbn = B.cbn ∧
    (∀ i, i < B.n → atoi (B.cd i) = some (calculateCheckDigit (stringField (B.rdfi i) 8))) ∧
    (∀ i, i < B.n → iatTracePrefix (B.tr i) = .str (stringField B.hodfi 8)) ∧
    Ach.Props.AcceptedAscending.ascending B.tr ['-', '1'] (List.range B.n) := by
  obtain ⟨a1, a2, a3⟩ := Ach.Props.Accepted.accepted_iat_batch_header_control_agree c B.hp B.cp B.hodfi B.codfi B.hbn B.cbn
    B.hscc B.cscc B.hH B.hC B.h1 B.h2 B.h5 B.h6 B.h7 B.h8 ha
  obtain ⟨t1, t2, t3⟩ := Ach.Props.AcceptedIAT.accepted_iat_batch_totals_and_hash c B.cp B.p B.n B.tc B.am B.rdfi
    (fun i => Ach.Props.AcceptedHash.rdfiNumber (B.rdfi i)) B.credit B.debit B.hash B.hC B.k3 B.k4 B.k2 B.hE B.e4 B.e5 B.e1
    (fun i hi => Ach.Props.AcceptedHash.rdfiContribution_ascii c (B.rdfi i) (B.ascii i hi)) ha
  obtain ⟨c1, c2⟩ := Ach.Props.AcceptedIATCount.accepted_iat_batch_count_and_order c B.cp B.p B.n B.recs B.tr B.count B.hC B.k1
    B.hE B.e6 B.e3 ha
  refine ⟨c1 (hdef _), t3, t1, t2, a3 (hdef _), a1, a2, ?_, ?_, c2 (hdef _)⟩
  · exact Ach.Props.AcceptedIATEntries.accepted_iat_batch_every_check_digit c B.p B.n B.rdfi B.cd B.hE B.e1 B.e2 ha
  · exact accepted_iat_batch_traces_begin_with_odfi c B.hp B.p B.n B.tr B.hodfi (hdef _) (hdef _) B.hH B.h5 B.hE B.e3 ha

end Ach.Props.C03IATCode
